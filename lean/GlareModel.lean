-- Root of the `GlareModel` library: executable model (Core), lemmas (Proofs) and
-- property theorems (Props). `lake build` re-checks everything.
import GlareModel.Core.Util
import GlareModel.Core.SortKey
import GlareModel.Core.Arith
import GlareModel.Core.Cast
import GlareModel.Core.Sexp
import GlareModel.Core.Sem
import GlareModel.Core.SemParse
import GlareModel.Proofs.List
import GlareModel.Proofs.SortKey
import GlareModel.Proofs.SortKeyCol
import GlareModel.Proofs.ExecStack
import GlareModel.Props.C08
import GlareModel.Props.C12
import GlareModel.Props.C13
import GlareModel.Props.C01
import GlareModel.Props.C02
import GlareModel.Props.C03
import GlareModel.Props.C06
import GlareModel.Props.C07
import GlareModel.Props.C09
import GlareModel.Core.Like
import GlareModel.Core.Str
import GlareModel.Props.C20
import GlareModel.Props.C05
import GlareModel.Core.Csv
import GlareModel.Props.C17
import GlareModel.Core.Rle
import GlareModel.Props.C10
import GlareModel.Core.Catalog
import GlareModel.Core.CatalogRun
import GlareModel.Core.Collection
import GlareModel.Props.C14
import GlareModel.Core.Tokens
import GlareModel.Props.C15
import GlareModel.Generated.CastTable
import GlareModel.Core.Unify
import GlareModel.Props.C18
import GlareModel.Core.Footer
import GlareModel.Props.C19
import GlareModel.Core.Scan
import GlareModel.Props.C11
import GlareModel.Core.Proto
import GlareModel.Core.ExecStack
import GlareModel.Core.Materialize
import GlareModel.Core.CsvInfer
import GlareModel.Core.Directory
import GlareModel.Core.Varint
import GlareModel.Props.C04
import GlareModel.Core.Layout
import GlareModel.Props.C16
import GlareModel.Core.Merge
import GlareModel.Core.CaseExpr
import GlareModel.Core.Drain
