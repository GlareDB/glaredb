import GlareModel.Core.Catalog
import GlareModel.Core.Collection
import GlareModel.Proofs.List
/-! # C14 — Catalog and table contents equal the sequential effect of DDL/DML

Theorems about `Core/Catalog.lean` (statement step functions) and `Core/Collection.lean`
(append / flush / scan of the shared segment list, the parallel claim protocol). -/
namespace GlareModel.Props.C14
open GlareModel GlareModel.Catalog GlareModel.Collection

/-! ## Parallel scan: every segment index is claimed exactly once (any number of scanners, any schedule) -/

/-- Invariant of the claim protocol: claimed indices together with the scanners' pending `next`
indices are exactly `0 .. counter-1`, each once. -/
theorem claims_perm (n : Nat) (sched : List Nat) :
    let c := sched.foldl claim (Claims.init n)
    (c.log ++ c.next).Perm (List.range c.counter) := by
  refine List.foldlRecOn (motive := fun c => (c.log ++ c.next).Perm (List.range c.counter)) (b := Claims.init n)
    sched claim (.refl _) fun c h j _ => ?_
  unfold claim
  cases hj : c.next[j]? with
  | none => exact h
  | some i =>
    simp only [List.append_assoc, List.singleton_append, List.range_succ]
    exact ((perm_set hj c.counter).symm.append_left _).trans <| List.perm_middle.trans <|
      (h.cons _).trans (List.perm_append_singleton _ _).symm

/-- No index is claimed twice. -/
theorem claims_nodup (n : Nat) (sched : List Nat) :
    (sched.foldl claim (Claims.init n)).log.Nodup :=
  (List.nodup_append.mp ((claims_perm n sched).nodup_iff.mpr List.nodup_range)).1

/-- When every scanner has stopped (its next index is past the `S` segments of the collection),
every segment index below `S` has been claimed: with `claims_nodup`, each exactly once. -/
theorem claims_complete (n : Nat) (sched : List Nat) (S : Nat) (hn : 0 < n)
    (hstop : ∀ i ∈ (sched.foldl claim (Claims.init n)).next, S ≤ i) :
    ∀ k, k < S → k ∈ (sched.foldl claim (Claims.init n)).log := by
  intro k hk
  have h := claims_perm n sched
  -- the number of scanners never changes, so some scanner `i` has stopped, and `counter > i ≥ S`
  have hlen : (sched.foldl claim (Claims.init n)).next.length = n :=
    List.foldlRecOn (motive := fun c => c.next.length = n) sched claim (by simp [Claims.init]) fun c hc j _ => by
      unfold claim; cases c.next[j]? <;> simp [hc]
  generalize sched.foldl claim (Claims.init n) = c at *
  obtain ⟨i, hi⟩ := List.exists_mem_of_length_pos (hlen ▸ hn)
  have hic := List.mem_range.mp (h.mem_iff.mp (List.mem_append_right _ hi))
  have hiS := hstop i hi
  rcases List.mem_append.mp (h.mem_iff.mpr (List.mem_range.mpr (by omega : k < c.counter))) with h1 | h2
  · exact h1
  · have := hstop k h2; omega

example : (([0, 1, 0, 0, 1].foldl claim (Claims.init 2)).log) = [0, 1, 2, 4, 3] := by decide

/-! ## Appending keeps every row, in order -/

theorem pushRow_flatten (cap : Nat) (chunks : Segment) (r : Nat) :
    (pushRow cap chunks r).flatten = chunks.flatten ++ [r] := by
  unfold pushRow
  cases h : chunks.getLast? with
  | none =>
    have : chunks = [] := List.getLast?_eq_none_iff.mp h
    simp [this]
  | some last =>
    obtain ⟨ys, hys⟩ := List.getLast?_eq_some_iff.mp h
    subst hys
    simp only [List.dropLast_concat]
    split <;> simp

theorem appendBatch_flatten (cap : Nat) (chunks : Segment) (rows : List Nat) :
    (appendBatch cap chunks rows).flatten = chunks.flatten ++ rows := by
  unfold appendBatch
  have key : ∀ (rows : List Nat) (cs : Segment), (rows.foldl (pushRow cap) cs).flatten = cs.flatten ++ rows := by
    intro rows
    induction rows with
    | nil => intro cs; simp
    | cons r rs ih => intro cs; rw [List.foldl_cons, ih, pushRow_flatten]; simp
  rw [key]
  split <;> simp_all

/-! ## Snapshot scans: segments published after the scan state was created are never read -/

/-- Appends and flushes only add segments at the end: the first `L` segments never change. -/
theorem prefix_stable (s : St) (op : Op) (L : Nat) (hL : L ≤ s.segments.length) :
    (Collection.step s op).1.segments.take L = s.segments.take L := by
  have hflush : ∀ (s : St) (i : Nat), L ≤ s.segments.length → (flushApp s i).segments.take L = s.segments.take L := by
    intro s i hL
    unfold flushApp
    repeat' split
    all_goals first | rfl | simp [List.take_append_of_le_length hL]
  cases op with
  | append i rows =>
    simp only [Collection.step, appendOp]
    repeat' split
    all_goals first | rfl | exact hflush _ _ (by simpa using hL)
  | flush i => exact hflush s i hL
  | scan j => simp only [Collection.step, scanOp]; split <;> rfl
  | mkSeq n snap => rfl
  | mkPar n snap => rfl

/-- What one `scan` call of a scan state with snapshot bound `L` can return: nothing, or a chunk
of one of the first `L` segments — provided the segment it is currently reading is below the
bound (`curOk`), which `scanLoop` itself maintains. -/
def curOk (L : Nat) (sc : ScanSt) : Prop := ∀ k, sc.cur = some k → k < L

theorem scanLoop_snapshot (segments : List Segment) (L : Nat) (fuel : Nat) (counter : Nat) (sc : ScanSt)
    (hlim : sc.limit = some L) (hcur : curOk L sc) :
    let r := scanLoop segments counter fuel sc
    r.1.limit = some L ∧ curOk L r.1 ∧
      (r.2.2 = [] ∨ ∃ k, k < L ∧ r.2.2 ∈ segments.getD k []) := by
  induction fuel generalizing counter sc with
  | zero => simp [scanLoop, hlim, hcur]
  | succ fuel ih =>
    unfold scanLoop
    cases hc : sc.cur with
    | none =>
      simp only [hlim]
      cases segments[sc.nextIdx]? with
      | none => simp [hlim, hcur]
      | some seg =>
        by_cases hv : sc.nextIdx < L
        · simp only [hv, decide_true, if_true]
          exact ih _ _ (by simp) fun k hk => by simp at hk; omega
        · simp [hv, hlim, hcur]
    | some k =>
      simp only
      have hk : k < L := hcur k hc
      cases hch : (segments.getD k [])[sc.chunkIdx]? with
      | some c =>
        exact ⟨by simpa using hlim, fun k' hk' => by simp_all, Or.inr ⟨k, hk, List.mem_of_getElem? hch⟩⟩
      | none => exact ih _ _ (by simpa using hlim) fun k' hk' => by simp at hk'

/-- A scan state created with a snapshot bound reads only rows that were published before it was
created, whatever appends/flushes/other scans happen in between: the rows it returns come from
the first `L` segments, and those never change (`prefix_stable`). This is the model-level content
of "INSERT ... SELECT reads the table as it was when the statement started". -/
theorem snapshot_scan_reads_prefix (s : St) (j : Nat) (sc : ScanSt) (L : Nat)
    (hj : s.scans[j]? = some sc) (hlim : sc.limit = some L) (hcur : curOk L sc) :
    (scanOp s j).2 = [] ∨ ∃ k, k < L ∧ (scanOp s j).2 ∈ s.segments.getD k [] := by
  unfold scanOp
  rw [hj]
  exact (scanLoop_snapshot s.segments L _ s.counter sc hlim hcur).2.2

/-- Without the bound the property fails (the behaviour of the pinned commit before the `fix:`
commit): a scan that appends what it reads — `INSERT INTO t SELECT * FROM t` — reads its own
append once the appender flushes (segment size 1 here; 16 chunks x 2048 rows in the engine). -/
theorem live_scan_reads_own_append :
    run { segSize := 1, chunkCap := 1, segments := [[[7]]], apps := [[]] }
      [.mkSeq 1 false, .scan 0, .append 0 [7], .scan 0, .append 0 [7], .scan 0]
      = [[], [7], [], [7], [], [7]] := by decide

/-- With the bound the same interleaving stops after the snapshot. -/
theorem snapshot_scan_stops :
    run { segSize := 1, chunkCap := 1, segments := [[[7]]], apps := [[]] }
      [.mkSeq 1 true, .scan 0, .append 0 [7], .scan 0, .append 0 [7], .scan 0]
      = [[], [7], [], [], [], []] := by decide

/-! ## Catalog: sequential effect of statements -/

/-- **A statement that fails changes nothing** (specification step): catalog, table contents and
settings after an error are the state before the statement. -/
theorem spec_failed_stmt_changes_nothing (t : Int) (s : Sess) (st : Stmt) (b : Bool)
    (h : (Catalog.step t s st).2 = .err b) : (Catalog.step t s st).1 = s := by
  cases st <;> simp only [Catalog.step] at h ⊢ <;> (repeat' split at h) <;> simp_all

/-- The code-shaped step agrees with the specification on every statement except
`CREATE TABLE AS`. -/
theorem impl_eq_spec_unless_ctas (t : Int) (s : Sess) (st : Stmt)
    (h : ∀ sn n ine w q refs, st ≠ .ctas sn n ine w q refs) : stepImpl t s st = Catalog.step t s st := by
  cases st <;> first | rfl | (exact absurd rfl (h _ _ _ _ _ _))

/-- ... and for `CREATE TABLE AS` the only difference is the table left behind by a run-time
failure of the query: the catalog gains the empty table although the statement reports an error
(the behaviour observed on the pinned commit; known finding). -/
theorem impl_ctas_runtime_failure_leaves_table (t : Int) (s : Sess) (sn n : String) (ine : Bool) (w : Nat)
    (q : Sem.Query) (refs : List String) (sc : Schema) (e : Sem.Err)
    (hs : findSchema s sn = some sc) (hn : sc.find n = none)
    (hq : evalOn s q refs = .error e) (he : isRuntime e = true) :
    stepImpl t s (.ctas sn n ine w q refs) = (addObj s sn n (.table w []), .err true) := by
  simp [stepImpl, hs, hn, hq, he]

def failingQuery : Sem.Query :=
  .agg [] [.mk .sum false (.col 0) none] (.values [[.lit (.int 9223372036854775807)], [.lit (.int 9223372036854775807)]])

/-- The full property is false of the code-shaped step: a failing statement changes the catalog
(witness replayed on the engine by the check's probe; known finding). The specification step on
the same input leaves nothing behind. -/
theorem impl_failed_ctas_changes_catalog :
    ((stepImpl 4 Sess.init (.ctas "temp" "c" false 1 failingQuery [])).2 matches .err true) = true ∧
    (lookup (stepImpl 4 Sess.init (.ctas "temp" "c" false 1 failingQuery [])).1 "temp" "c").isSome = true ∧
    (lookup (Catalog.step 4 Sess.init (.ctas "temp" "c" false 1 failingQuery [])).1 "temp" "c").isSome = false := by
  decide

/-- Statements that only read never change the state. -/
theorem reads_are_pure (t : Int) (s : Sess) (q : Sem.Query) (v : String) :
    (Catalog.step t s (.select q [])).1 = s ∧ (Catalog.step t s (.showVar v)).1 = s ∧ (Catalog.step t s .listObjs).1 = s := by
  refine ⟨?_, ?_, rfl⟩
  · simp only [Catalog.step]; split <;> rfl
  · simp only [Catalog.step]; split <;> rfl

/-- Temporary objects and settings of one session are invisible to the others: a statement run on
session `i` leaves every other session's state untouched. -/
theorem other_sessions_untouched (impl : Bool) (t : Int) (ss : List Sess) (i j : Nat) (st : Stmt) (hij : i ≠ j) :
    (stepAt impl t ss i st).1[j]? = ss[j]? := by
  unfold stepAt
  split
  · rfl
  · simp [List.getElem?_set_ne hij]

/-- `IF NOT EXISTS` on an existing name is a no-op that succeeds. -/
theorem create_table_if_not_exists_idempotent (t : Int) (s : Sess) (sn n : String) (w : Nat) (sc : Schema) (o : Obj)
    (hs : findSchema s sn = some sc) (hn : sc.find n = some o) :
    Catalog.step t s (.createTable sn n true w) = (s, .ok) := by
  simp [Catalog.step, hs, hn]

theorem find_filter_ne {β : Type} (l : List (String × β)) (n : String) :
    (l.filter (·.1 != n)).find? (·.1 == n) = none :=
  List.find?_eq_none.mpr fun p hp => by simpa using (List.mem_filter.mp hp).2

/-- After a successful DROP the name no longer resolves (until it is created again). -/
theorem drop_then_lookup_none (s : Sess) (sn n : String) : lookup (removeObj s sn n) sn n = none := by
  unfold lookup findSchema removeObj updSchema
  rw [List.find?_map]
  have hp : ((fun (x : Schema) => x.name == sn) ∘ fun (sc : Schema) =>
      if sc.name == sn then { sc with objs := sc.objs.filter (·.1 != n) } else sc) = fun x => x.name == sn := by
    funext sc
    simp only [Function.comp]
    split <;> rfl
  rw [hp]
  cases h : s.schemas.find? (fun x => x.name == sn) with
  | none => rfl
  | some sc =>
    have hname : (sc.name == sn) = true := by simpa using List.find?_some h
    simp only [Option.map_some, Option.bind_some, hname, if_true, Schema.find, find_filter_ne, Option.map_none]

theorem drop_existing_succeeds (t : Int) (s : Sess) (sn n : String) (o : Obj) (ie : Bool) (h : lookup s sn n = some o) :
    Catalog.step t s (.dropObj sn n ie) = (removeObj s sn n, .ok) := by
  cases hf : findSchema s sn with
  | none => simp [lookup, hf] at h
  | some sc => simp [Catalog.step, h, hf]

/-- An INSERT evaluates its source on the state *before* the statement and appends exactly those
rows to the target; the reported count is their number. -/
theorem insert_reads_prestate (t : Int) (s : Sess) (sn n : String) (q : Sem.Query) (refs : List String) (w : Nat) (old new : List Sem.Row)
    (ht : lookup s sn n = some (.table w old)) (hq : evalOn s q refs = .ok new) :
    Catalog.step t s (.insert sn n q refs) = (setRows s sn n (old ++ new), .count new.length) := by
  simp [Catalog.step, ht, hq]

/-- SET followed by RESET restores the default. -/
theorem set_reset_roundtrip (t : Int) (s s1 s2 : Sess) (v : String) (b : Bool) (x : Int)
    (h1 : setVar t s v b x = some s1) (h2 : resetVar t s1 v = some s2) :
    getVar t s2 v = ((settings t).find? (·.name == v)).map fun st => (st.isBool, st.dflt) := by
  unfold setVar at h1
  unfold resetVar at h2
  unfold getVar
  cases hst : (settings t).find? (·.name == v) with
  | none => simp [hst] at h1
  | some st =>
    simp only [hst] at h2 ⊢
    cases h2
    simp only [find_filter_ne, Option.map_some]

/-- A SET outside the allowed range is rejected and (by `spec_failed_stmt_changes_nothing`)
changes nothing. -/
theorem set_out_of_range_rejected (t : Int) (s : Sess) :
    (Catalog.step t s (.setVar "partitions" false 0)).2 = .err false ∧
    (Catalog.step t s (.setVar "batch_size" false 8193)).2 = .err false := by
  constructor <;> simp [Catalog.step, setVar, settings, List.find?]

end GlareModel.Props.C14
