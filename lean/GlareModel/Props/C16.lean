import GlareModel.Core.Layout
import GlareModel.Props.C04
/-! # C16 — No query makes the engine's unsafe code touch memory it does not own (partial)

What a Lean model can carry: every offset the row code computes is in bounds and every aggregate
state is placed at an aligned offset, for every column list / state list; and (from C04) the phase
barrier that the `// SAFETY` comments of the hash join rely on. Nothing here is about Rust's
memory model itself. -/
namespace GlareModel.Props.C16
open GlareModel GlareModel.Layout

/-! ## Row layout -/

theorem offsetsFrom_length (s : Nat) (ws : List Nat) : (offsetsFrom s ws).length = ws.length := by
  induction ws generalizing s with
  | nil => rfl
  | cons w ws ih => simp [offsetsFrom, ih]

/-- Column `i` lies inside `[start, start + total width)`: its offset plus its width never passes
the end of the row. -/
theorem offsetsFrom_field_in_row (s : Nat) (ws : List Nat) (i : Nat) (hi : i < ws.length) :
    s ≤ (offsetsFrom s ws).getD i 0 ∧ (offsetsFrom s ws).getD i 0 + ws.getD i 0 ≤ s + ws.sum := by
  induction ws generalizing s i with
  | nil => simp at hi
  | cons w ws ih =>
    cases i with
    | zero => simp [offsetsFrom]
    | succ i =>
      have := ih (s + w) i (by simpa using hi)
      simp only [offsetsFrom, List.getD_cons_succ, List.sum_cons]
      omega

/-- **Every field is inside its row**: for every column list and every column index, the bytes
`[offset, offset + width)` lie after the validity bitmap and before `row_width`. -/
theorem field_in_row (ws : List Nat) (i : Nat) (hi : i < ws.length) :
    (rowLayout ws).validityWidth ≤ (rowLayout ws).offsets.getD i 0 ∧
    (rowLayout ws).offsets.getD i 0 + ws.getD i 0 ≤ (rowLayout ws).rowWidth := by
  simpa [rowLayout] using offsetsFrom_field_in_row (bitmapBytes ws.length) ws i hi

/-- **Every cell is inside the buffer**: `byte_offset(row, col) + width ≤ buffer_size(rows)` for
every `row < rows`. -/
theorem cell_in_buffer (ws : List Nat) (rows row i : Nat) (hr : row < rows) (hi : i < ws.length) :
    byteOffset (rowLayout ws) row i + ws.getD i 0 ≤ (rowLayout ws).rowWidth * rows := by
  have h := (field_in_row ws i hi).2
  unfold byteOffset
  have : (rowLayout ws).rowWidth * row + (rowLayout ws).rowWidth ≤ (rowLayout ws).rowWidth * rows := by
    rw [← Nat.mul_succ]; exact Nat.mul_le_mul_left _ hr
  omega

/-- Consecutive fields do not overlap. -/
theorem offsetsFrom_disjoint (s : Nat) (ws : List Nat) (i : Nat) (hi : i + 1 < ws.length) :
    (offsetsFrom s ws).getD i 0 + ws.getD i 0 = (offsetsFrom s ws).getD (i + 1) 0 := by
  induction ws generalizing s i with
  | nil => simp at hi
  | cons w ws ih =>
    cases i with
    | zero =>
      cases ws with
      | nil => simp at hi
      | cons w2 ws2 => simp [offsetsFrom]
    | succ i =>
      have := ih (s + w) i (by simpa using hi)
      simpa [offsetsFrom] using this

/-- The validity bit of every column fits in the validity bytes. -/
theorem validity_bit_fits (n i : Nat) (hi : i < n) : i / 8 < bitmapBytes n := by
  unfold bitmapBytes; omega

/-! ## Aggregate layout -/

theorem alignLen_ge (len a : Nat) (ha : 0 < a) : len ≤ alignLen len a := by
  unfold alignLen
  have h := Nat.div_add_mod (len + a - 1) a
  have hm := Nat.mod_lt (len + a - 1) ha
  have : a * ((len + a - 1) / a) = (len + a - 1) / a * a := Nat.mul_comm _ _
  omega

theorem alignLen_mod (len a : Nat) : alignLen len a % a = 0 := by
  unfold alignLen; exact Nat.mul_mod_left _ _

/-- Every aggregate state starts at a multiple of the base alignment, states do not overlap, and
the end offset is not before the last state's end. -/
theorem aggOffsets_spec (base : Nat) (hb : 0 < base) (off : Nat) (hoff : off % base = 0) (states : List (Nat × Nat)) :
    (∀ o ∈ (aggOffsets base off states).1, o % base = 0) ∧
    off ≤ (aggOffsets base off states).2 ∧
    (aggOffsets base off states).1.length = states.length := by
  induction states generalizing off with
  | nil => simp [aggOffsets]
  | cons st rest ih =>
    obtain ⟨size, al⟩ := st
    have h := ih (alignLen (off + size) base) (alignLen_mod _ _)
    have hge := alignLen_ge (off + size) base hb
    simp only [aggOffsets]
    refine ⟨?_, ?_, ?_⟩
    · intro o ho
      rcases List.mem_cons.mp ho with h1 | h2
      · subst h1; exact hoff
      · exact h.1 o h2
    · omega
    · simp [h.2.2]

/-- A state of `size` bytes at position `k` ends before the next state begins (or before the end). -/
theorem aggOffsets_disjoint (base : Nat) (hb : 0 < base) (off : Nat) (states : List (Nat × Nat)) (k : Nat)
    (hk : k < states.length) :
    (aggOffsets base off states).1.getD k 0 + (states.getD k (0, 1)).1 ≤
      ((aggOffsets base off states).1.getD (k + 1) ((aggOffsets base off states).2)) := by
  induction states generalizing off k with
  | nil => simp at hk
  | cons st rest ih =>
    obtain ⟨size, al⟩ := st
    cases k with
    | zero =>
      have hge := alignLen_ge (off + size) base hb
      cases rest with
      | nil => simp [aggOffsets]; omega
      | cons r2 rs => simp [aggOffsets]; omega
    | succ k =>
      have := ih (alignLen (off + size) base) k (by simpa using hk)
      simpa [aggOffsets] using this

theorem getD_mem {α : Type} (l : List α) (k : Nat) (d : α) (h : k < l.length) : l.getD k d ∈ l := by
  rw [List.getD_eq_getElem?_getD, List.getElem?_eq_getElem h]
  exact List.getElem_mem h

/-- **Aggregate states are placed at aligned offsets**: for every list of state descriptors whose
alignments are powers of two (so each divides the maximum), every state offset is a multiple of
that state's own alignment, and the row width is a multiple of the base alignment - so with an
aligned buffer every state of every row is aligned. -/
theorem agg_states_aligned (groupsWidth : Nat) (states : List (Nat × Nat))
    (hdiv : ∀ s ∈ states, s.2 ∣ (aggLayout groupsWidth states).baseAlign) :
    (∀ k, k < states.length → (aggLayout groupsWidth states).offsets.getD k 0 % (states.getD k (0, 1)).2 = 0) ∧
    (aggLayout groupsWidth states).rowWidth % (aggLayout groupsWidth states).baseAlign = 0 := by
  have hbase : 0 < (states.map (·.2)).foldl max 1 :=
    List.foldlRecOn (motive := fun b => 0 < b) _ max Nat.one_pos fun b hb a _ => Nat.lt_of_lt_of_le hb (Nat.le_max_left b a)
  refine ⟨fun k hk => ?_, alignLen_mod _ _⟩
  have hspec := aggOffsets_spec _ hbase (alignLen groupsWidth _) (alignLen_mod _ _) states
  have hmod := hspec.1 _ (getD_mem _ k 0 (hspec.2.2 ▸ hk))
  exact Nat.mod_eq_zero_of_dvd (Nat.dvd_trans (hdiv _ (getD_mem _ k (0, 1) hk)) (Nat.dvd_of_mod_eq_zero hmod))

example : (rowLayout [8, 4, 16, 1]).offsets = [1, 9, 13, 29] ∧ (rowLayout [8, 4, 16, 1]).rowWidth = 30 := by decide
example : (aggLayout 9 [(8, 8), (24, 16), (1, 1)]).offsets = [16, 32, 64] ∧ (aggLayout 9 [(8, 8), (24, 16), (1, 1)]).rowWidth = 80 := by decide

/-! ## Phase exclusion (from C04) -/

/-- The barrier that separates build / probe / drain of the hash join never lets a partition pass
before every partition has arrived: the flag implies that the countdown reached zero. -/
theorem phase_gate (n : Nat) (acts : List Proto.BAct) :
    (Proto.brun (Proto.Barrier.init n) acts).flag = true → (Proto.brun (Proto.Barrier.init n) acts).remaining = 0 :=
  (C04.barrier_inv_reachable n acts).flag_zero

end GlareModel.Props.C16
