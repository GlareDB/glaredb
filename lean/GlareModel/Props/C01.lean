import GlareModel.Core.Sem

/-! # C01 — SELECT results equal SQL bag semantics (theorems about `Sem`) -/
namespace GlareModel.Props.C01
open GlareModel.Sem

def ov : Option Bool → Value
  | none => .null
  | some b => .bool b

/-- Three-valued AND / OR are commutative on the whole truth domain {TRUE, FALSE, NULL}. -/
theorem kleene_comm (a b : Option Bool) :
    and3 (ov a) (ov b) = and3 (ov b) (ov a) ∧ or3 (ov a) (ov b) = or3 (ov b) (ov a) := by
  rcases a with _ | _ | _ <;> rcases b with _ | _ | _ <;> exact ⟨rfl, rfl⟩

/-- De Morgan in three-valued logic. -/
theorem kleene_de_morgan (a b : Option Bool) :
    (and3 (ov a) (ov b) >>= not3) = (do or3 (← not3 (ov a)) (← not3 (ov b))) := by
  rcases a with _ | _ | _ <;> rcases b with _ | _ | _ <;> rfl

/-! ## What the reference semantics `Sem` says, operator by operator

The correspondence check compares the engine with `Sem` on generated queries; these theorems pin
down, for every database, environment and input, what `Sem` itself computes for the relational
operators, so that "equal to Sem" has a meaning one can read: WHERE keeps exactly the TRUE rows,
UNION ALL is bag union, LIMIT/OFFSET is the exact slice, DISTINCT keeps one copy of every row, the
cross product has |L|*|R| rows, ORDER BY permutes. -/

instance : LawfulBEq Value where
  rfl := by
    intro a
    cases a with
    | null => rfl
    | int i => show (decide (i = i)) = true; simp
    | bool b => cases b <;> rfl
    | str s => show (decide (s = s)) = true; simp
  eq_of_beq := by
    intro a b h
    cases a <;> cases b <;>
      first
        | rfl
        | exact absurd (show false = true from h) (by decide)
        | exact congrArg _ (of_decide_eq_true h)

theorem beq_bool_true (c : Value) : (c == Value.bool true) = true ↔ c = .bool true := by simp

/-- TRUE, and nothing else (not NULL, not FALSE, not an error), lets a row through. -/
def passes (x : Except Err Value) : Bool :=
  match x with
  | .ok v => v == .bool true
  | .error _ => false

theorem filterRows_cons (db : Db) (f : Nat) (env : List Row) (p : Expr) (r : Row) (rs : List Row) :
    filterRows db (f + 1) env p (r :: rs) = (do
      let c ← evalE db f env r p
      let rest ← filterRows db (f + 1) env p rs
      pure (if c == .bool true then r :: rest else rest)) := by
  show List.filterMapM _ (r :: rs) = _
  rw [List.filterMapM_cons, bind_assoc]
  refine bind_congr fun c => ?_
  rw [pure_bind]
  cases c == .bool true
  · exact (bind_pure (filterRows db (f + 1) env p rs)).symm
  · rfl

/-- **WHERE keeps exactly the rows whose predicate is TRUE**: when filtering succeeds, the output is
the input filtered by "the predicate evaluates to TRUE" (order and multiplicity preserved; NULL and
FALSE rows are dropped), and no row's predicate raised an error. -/
theorem filterRows_spec (db : Db) (f : Nat) (env : List Row) (p : Expr) (rs out : List Row)
    (h : filterRows db (f + 1) env p rs = .ok out) :
    out = rs.filter (fun r => passes (evalE db f env r p)) ∧ ∀ r ∈ rs, ∃ v, evalE db f env r p = .ok v := by
  induction rs generalizing out with
  | nil => cases h; exact ⟨rfl, nofun⟩
  | cons r rs ih =>
    rw [filterRows_cons] at h
    cases hc : evalE db f env r p with
    | error e => rw [hc] at h; cases h
    | ok c =>
      cases hrest : filterRows db (f + 1) env p rs with
      | error e => rw [hc, hrest] at h; cases h
      | ok rest =>
        rw [hc, hrest] at h; cases h
        obtain ⟨rfl, hall⟩ := ih rest hrest
        exact ⟨by rw [List.filter_cons, hc]; rfl, List.forall_mem_cons.mpr ⟨⟨c, hc⟩, hall⟩⟩

/-- A filter node is "evaluate the input, then keep the TRUE rows". -/
theorem evalQ_filter (db : Db) (f : Nat) (env : List Row) (p : Expr) (q : Query) :
    evalQ db (f + 1) env (.filter p q) = (do let rs ← evalQ db f env q; filterRows db f env p rs) := rfl

/-- UNION ALL is bag union: the concatenation of both results (every row with its multiplicity). -/
theorem evalQ_union_all (db : Db) (f : Nat) (env : List Row) (l r : Query) (a b : List Row)
    (ha : evalQ db f env l = .ok a) (hb : evalQ db f env r = .ok b) :
    evalQ db (f + 1) env (.union true l r) = .ok (a ++ b) := by
  simp [evalQ, ha, hb, bind, Except.bind, pure, Except.pure]

/-- LIMIT n OFFSET m is the exact slice of its input. -/
theorem evalQ_limit (db : Db) (f : Nat) (env : List Row) (n off : Nat) (q : Query) (rs : List Row)
    (h : evalQ db f env q = .ok rs) : evalQ db (f + 1) env (.limit n off q) = .ok ((rs.drop off).take n) := by
  simp [evalQ, h, bind, Except.bind, pure, Except.pure]

/-- DISTINCT keeps exactly one copy of every row that occurs. -/
theorem mem_dedup (rs : List Row) (r : Row) : r ∈ dedup rs ↔ r ∈ rs := by
  induction rs with
  | nil => simp [dedup]
  | cons x xs ih => by_cases hx : r = x <;> simp [dedup, rowEq, ih, hx]

theorem dedup_nodup (rs : List Row) : (dedup rs).Nodup := by
  induction rs with
  | nil => simp [dedup]
  | cons x xs ih =>
    exact List.nodup_cons.mpr ⟨fun h => by simpa [rowEq] using (List.mem_filter.mp h).2, ih.sublist List.filter_sublist⟩

/-- The cross product has |L| * |R| rows. -/
theorem cross_join_length (db : Db) (f : Nat) (env : List Row) (l r : Query) (a b : List Row) (on : Expr)
    (ha : evalQ db f env l = .ok a) (hb : evalQ db f env r = .ok b) :
    ∃ out, evalQ db (f + 1) env (.join .cross on l r) = .ok out ∧ out.length = a.length * b.length := by
  refine ⟨a.flatMap fun x => b.map fun y => x ++ y, by simp [evalQ, ha, hb, bind, Except.bind, pure, Except.pure], ?_⟩
  simp [List.length_flatMap, List.map_const']

theorem insertBy_perm {α : Type} (cmp : α → α → Ordering) (x : α) (l : List α) : (insertBy cmp x l).Perm (x :: l) := by
  induction l with
  | nil => exact .refl _
  | cons y ys ih =>
    rw [insertBy]
    split
    · exact .refl _
    · exact (ih.cons y).trans (.swap x y ys)

/-- ORDER BY returns a permutation of its input (the stable insertion sort of `Sem`). -/
theorem sortBy_perm {α : Type} (cmp : α → α → Ordering) (xs : List α) : (sortBy cmp xs).Perm xs := by
  unfold sortBy
  induction xs with
  | nil => exact .refl _
  | cons x xs ih => exact (insertBy_perm cmp x _).trans (ih.cons x)

end GlareModel.Props.C01
