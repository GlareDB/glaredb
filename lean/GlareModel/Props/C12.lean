import GlareModel.Core.Arith

/-!
# C12 — Integer and decimal arithmetic is exact or fails; never wraps or crashes
-/
namespace GlareModel.Props.C12
open GlareModel.Arith

/-- Every native integer operator of the model is exact whenever it yields a value, and the
value is representable in the operand type (all widths, both signednesses, all operands). -/
theorem int_ops_exact (t : IntTy) (a b v : Int) :
    (natAdd t a b = .val v → v = a + b ∧ t.inRange v = true) ∧
    (natSub t a b = .val v → v = a - b ∧ t.inRange v = true) ∧
    (natMul t a b = .val v → v = a * b ∧ t.inRange v = true) ∧
    (natDiv t a b = .val v → b ≠ 0 ∧ v = Int.tdiv a b ∧ t.inRange v = true) ∧
    (natNeg t a = .val v → v = -a ∧ t.inRange v = true) := by
  refine ⟨?_, ?_, ?_, ?_, ?_⟩ <;> intro h
  all_goals
    simp only [natAdd, natSub, natMul, natDiv, natNeg, exactOr] at h
    (try split at h) <;> (try split at h) <;> simp_all

/-- An operator traps exactly when the mathematical result is not representable (or the
divisor is zero): nothing representable is ever rejected. -/
theorem int_trap_iff (t : IntTy) (a b : Int) :
    (natAdd t a b = .trap .overflow ↔ t.inRange (a + b) = false) ∧
    (natSub t a b = .trap .overflow ↔ t.inRange (a - b) = false) ∧
    (natMul t a b = .trap .overflow ↔ t.inRange (a * b) = false) ∧
    (natDiv t a b = .trap .divZero ↔ b = 0) := by
  refine ⟨?_, ?_, ?_, ?_⟩
  all_goals
    simp only [natAdd, natSub, natMul, natDiv, exactOr]
    split <;> (try split) <;> simp_all

/-- The full statement of C12 for integer `+` ("overflow is an *error*") is false of the code
at the pinned commit: the model, like the code, has no error outcome, it traps
(panic in debug builds, wrap-around in release builds). Witness `127 + 1 : Int8`. Known finding F3. -/
theorem int_add_overflow_is_not_an_error :
    binop "+" (.int ⟨8, true⟩) 127 (.int ⟨8, true⟩) 1 = .trap .overflow := by decide

/-- What a release build returns on that input: the wrapped value, which is wrong. -/
theorem int8_wrap_witness : (IntTy.wrap ⟨8, true⟩ (127 + 1)) = -128 := by decide

/-- What a successful fold has computed: the exact sum, whether a row was seen, and (if one was) a
sum inside the range of the type. -/
theorem sumFold_some (t : IntTy) (zs : List Int) (s r : SumSt) (h : sumFold t s zs = some r) :
    r.sum = s.sum + zs.sum ∧ r.valid = (s.valid || !zs.isEmpty) ∧ (zs ≠ [] → t.inRange r.sum = true) := by
  induction zs generalizing s with
  | nil => simp_all [sumFold]
  | cons z zs ih =>
    by_cases hr : t.inRange (s.sum + z) = true
    · simp only [sumFold, sumUpdate, hr, if_true] at h
      obtain ⟨h1, h2, h3⟩ := ih _ h
      refine ⟨by simp [h1, Int.add_assoc], by simp [h2], fun _ => ?_⟩
      cases zs with
      | nil => cases h; exact hr
      | cons w ws => exact h3 (by simp)
    · simp [sumFold, sumUpdate, hr] at h

/-- SUM is a homomorphism over any split of its input: updating partition-wise and merging
gives the same state as one pass, whenever no step overflows. -/
theorem sum_split (t : IntTy) (xs ys : List Int) (a b : SumSt)
    (ha : sumFold t sumInit xs = some a) (hb : sumFold t sumInit ys = some b) (m : SumSt)
    (hm : sumMerge t a b = some m) :
    m.sum = xs.sum + ys.sum ∧ m.valid = (!xs.isEmpty || !ys.isEmpty) := by
  obtain ⟨h1, h1', _⟩ := sumFold_some t xs sumInit a ha
  obtain ⟨h2, h2', _⟩ := sumFold_some t ys sumInit b hb
  simp only [sumMerge] at hm
  split at hm
  · cases hm; simp [h1, h2, h1', h2', sumInit]
  · cases hm

/-- SUM never returns a wrong total: a finalized value is the exact sum of the inputs. -/
theorem sum_exact (t : IntTy) (xs : List Int) (s : SumSt) (v : Int)
    (h : sumFold t sumInit xs = some s) (hv : sumFinalize s = some v) : v = xs.sum ∧ t.inRange v = true ∧ xs ≠ [] := by
  obtain ⟨h1, h2, h3⟩ := sumFold_some t xs sumInit s h
  simp only [sumFinalize] at hv
  split at hv
  · rename_i hvalid
    cases hv
    have hne : xs ≠ [] := by rintro rfl; simp [h2, sumInit] at hvalid
    exact ⟨by simpa [sumInit] using h1, h3 hne, hne⟩
  · cases hv

/-- Decimal `+`/`-` result type (`common_add_sub_decimal_type_info`): the scale is the larger
operand scale and the precision never exceeds the maximum of the width. -/
theorem addSub_type_bounds (bits : Nat) (l r : NumTy) (rt : DecTy) (h : addSubType bits l r = some rt) :
    rt.prec ≤ maxPrec bits ∧ rt.bits = bits ∧
      (∀ lp ls rp rs, metaOf bits l = some (lp, ls) → metaOf bits r = some (rp, rs) → rt.scale = max ls rs) := by
  simp only [addSubType] at h
  split at h
  · rename_i lp ls rp rs hl hr
    simp only [Option.some.injEq] at h
    subst h
    refine ⟨Nat.min_le_right _ _, rfl, ?_⟩
    intro lp' ls' rp' rs' h1 h2
    rw [hl] at h1; rw [hr] at h2
    simp only [Option.some.injEq, Prod.mk.injEq] at h1 h2
    rw [h1.2, h2.2]
  · cases h

/-- Rescaling to a larger scale is exact (multiplication by a power of ten) and the result
respects the target precision. -/
theorem rescale_up_exact (src dst : DecTy) (v r : Int) (hs : src.scale < dst.scale)
    (h : rescale src dst v = some r) :
    r = v * (10 ^ (dst.scale - src.scale).toNat : Nat) ∧ validPrec r dst.prec = true := by
  obtain ⟨hc, hp⟩ := rescale_some h
  refine ⟨?_, hp⟩
  have hd : src.scale - dst.scale < 0 := by omega
  have e : (-(src.scale - dst.scale)) = dst.scale - src.scale := by omega
  simp only [rescaleCore, hd, if_true, e] at hc
  split at hc
  · simp only [Option.some.injEq] at hc
    exact hc.symm
  · cases hc

/-! Non-vacuity. -/
example : natAdd ⟨64, true⟩ 9223372036854775806 1 = .val 9223372036854775807 := by decide
example : sumFold ⟨64, true⟩ sumInit [1, 2, 3] = some ⟨6, true⟩ := by decide
example : addSubType 64 (.dec ⟨64, 9, 3⟩) (.int ⟨32, true⟩) = some ⟨64, 14, 3⟩ := by decide

end GlareModel.Props.C12
