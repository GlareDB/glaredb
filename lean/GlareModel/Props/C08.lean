import GlareModel.Proofs.SortKeyCol
import GlareModel.Core.Merge

/-!
# C08 — ORDER BY yields a correctly sorted permutation; LIMIT/OFFSET the exact slice

Property theorems only (helper lemmas live in `Proofs/`). The code-shaped definitions are
in `Core/SortKey.lean` (model of `arrays/sort/sort_layout.rs`); the spec-shaped order is
`SortKey.Spec`. Every theorem quantifies over *all* values / rows / column lists.
-/
namespace GlareModel.Props.C08
open GlareModel.SortKey

/-- Key order embedding, one fixed-width column: byte comparison of the encoded column
equals the declared order (ASC/DESC × NULLS FIRST/LAST × NULL/non-NULL), for every
integer width and signedness, f16/f32/f64 (IEEE total order, NaN above +∞), booleans
(`false < true`) and intervals. -/
theorem key_col_embedding (c : KCol) (v1 v2 : KVal) (hf : c.ty.fixedWidth = true)
    (h1 : WF c.ty v1 = true) (h2 : WF c.ty v2 = true) :
    lexLt (encodeCol c v1) (encodeCol c v2) = Spec.colLt c (Spec.key c.ty v1) (Spec.key c.ty v2) := by
  by_cases n1 : v1 = .null <;> by_cases n2 : v2 = .null
  · rw [n1, n2, lexLt_irrefl, key_null]; rfl
  · have p2 := valid_of_WF hf h2 n2
    rw [n1, key_null, (colLt_null c p2).1, encodeCol_of_ne_null c n2]
    exact (lexLt_validity c _ _).1
  · have p1 := valid_of_WF hf h1 n1
    rw [n2, key_null, (colLt_null c p1).2, encodeCol_of_ne_null c n1]
    exact (lexLt_validity c _ _).2
  · have p1 := valid_of_WF hf h1 n1
    have p2 := valid_of_WF hf h2 n2
    rw [lexLt_encodeCol c n1 n2 (encValue_bytes hf _) (encValue_bytes hf _), colLt_valid c p1 p2,
      encValue_lt p1 p2, encValue_lt p2 p1]

/-- Equal encoded column bytes ⇔ equal values (no two distinct values share a key, so the
byte comparison never reports a tie the declared order does not have). -/
theorem key_col_injective (c : KCol) (v1 v2 : KVal) (hf : c.ty.fixedWidth = true)
    (h1 : WF c.ty v1 = true) (h2 : WF c.ty v2 = true) :
    encodeCol c v1 = encodeCol c v2 ↔ Spec.key c.ty v1 = Spec.key c.ty v2 := by
  have lt := key_col_embedding c v1 v2 hf h1 h2
  have gt := key_col_embedding c v2 v1 hf h2 h1
  constructor
  · intro e
    rw [e, lexLt_irrefl] at lt gt
    exact colLt_connex c hf h1 h2 lt.symm gt.symm
  · intro e
    rw [e, ← key_col_embedding c v2 v2 hf h2 h2, lexLt_irrefl] at lt gt
    exact lexLt_connex lt gt

/-- Key order embedding for any number of key columns. -/
theorem key_row_embedding (cols : List KCol) (r1 r2 : List KVal) (hf : allFixed cols = true)
    (h1 : rowWF cols r1 = true) (h2 : rowWF cols r2 = true) :
    lexLt (encodeRow cols r1) (encodeRow cols r2) = Spec.rowLt cols r1 r2 := by
  induction cols generalizing r1 r2 with
  | nil => rfl
  | cons c cs ih =>
    cases r1 with
    | nil => cases h1
    | cons a as =>
      cases r2 with
      | nil => cases h2
      | cons b bs =>
        simp only [rowWF, allFixed, Bool.and_eq_true] at h1 h2 hf
        have eq : (encodeCol c a == encodeCol c b) = (Spec.key c.ty a == Spec.key c.ty b) := by
          rw [Bool.eq_iff_iff, beq_iff_eq, beq_iff_eq]
          exact key_col_injective c a b hf.1 h1.1 h2.1
        rw [encodeRow, encodeRow, Spec.rowLt,
          lexLt_append _ _ (by rw [encodeCol_length, encodeCol_length]),
          key_col_embedding c a b hf.1 h1.1 h2.1, eq, ih as bs hf.2 h1.2 h2.2]

/-- Strings and binaries: the 12-byte zero-padded prefix never orders two values against the
full byte-wise order — including values sharing more than 12 bytes, containing 0x00 (same as
padding) or 0xFF; a prefix tie is left to the full comparison. -/
theorem string_prefix_sound (c : KCol) (a b : List Nat) (hs : c.ty = .utf8 ∨ c.ty = .binary)
    (ha : Bytes a) (hb : Bytes b)
    (h : lexLt (encodeCol c (.bytes a)) (encodeCol c (.bytes b)) = true) :
    Spec.colLt c (Spec.key c.ty (.bytes a)) (Spec.key c.ty (.bytes b)) = true := by
  have e : ∀ x, encValue c.ty (.bytes x) = padTo 12 x ∧ Spec.key c.ty (.bytes x) = .str x := by
    intro x; rcases hs with hs | hs <;> rw [hs] <;> exact ⟨rfl, rfl⟩
  rw [lexLt_encodeCol c (v1 := .bytes a) (v2 := .bytes b) nofun nofun
      ((e a).1 ▸ padTo_bytes 12 ha) ((e b).1 ▸ padTo_bytes 12 hb), (e a).1, (e b).1] at h
  rw [(e a).2, (e b).2, Spec.colLt]
  cases hd : c.desc <;> rw [hd] at h
  · exact padTo_lt 12 a b h
  · exact padTo_lt 12 b a h

/-- The shift written in the source matters: with `bits >> 31` (the value the pinned commit
used for f64) the encoding is *not* monotone. Witness: 1.0000000002328304 < 1.0000000002328306
but their keys compare the other way. This is finding F1, repaired by a `fix:` commit. -/
theorem f64_shift31_not_monotone :
    ∃ a b, a < 256 ^ 8 ∧ b < 256 ^ 8 ∧ Spec.floatOrd 8 a < Spec.floatOrd 8 b ∧
      lexLt (encFloat 8 31 a) (encFloat 8 31 b) = false :=
  ⟨0x3FF00000000FFFFF, 0x3FF0000000100000, by decide, by decide, by decide, by decide⟩

/-- Finding F2: encoding `true ↦ 0, false ↦ 1` reverses the boolean order. -/
theorem bool_true_zero_reversed :
    lexLt [1] [0] = false ∧ Spec.colLt ⟨.bool, false, false⟩ (Spec.key .bool (.bits 0)) (Spec.key .bool (.bits 1)) = true :=
  ⟨by decide, by decide⟩

/-! Non-vacuity: the hypotheses are met by concrete non-trivial columns and rows. -/
example : allFixed [⟨.float 8, true, false⟩, ⟨.int 4, false, true⟩, ⟨.interval, false, false⟩] = true ∧
    rowWF [⟨.float 8, true, false⟩, ⟨.int 4, false, true⟩, ⟨.interval, false, false⟩]
      [.bits 0x7FF8000000000000, .null, .iv 1 0xFFFFFFFF 5] = true := by decide
example : lexLt (encodeCol ⟨.float 8, false, false⟩ (.bits 0x3FF00000000FFFFF))
    (encodeCol ⟨.float 8, false, false⟩ (.bits 0x3FF0000000100000)) = true := by decide

end GlareModel.Props.C08

/-! ## Merging sorted runs (Core/Merge.lean) -/

namespace GlareModel.Props.C08
open GlareModel.Merge
universe u
variable {α : Type u}

theorem merge_perm (le : α → α → Bool) (xs ys : List α) : (merge le xs ys).Perm (xs ++ ys) := by
  fun_induction merge le xs ys with
  | case1 ys => simp
  | case2 x xs => simp
  | case3 x xs y ys h ih => exact List.Perm.cons x ih
  | case4 x xs y ys h ih =>
    refine List.Perm.trans (List.Perm.cons y ih) ?_
    exact (List.perm_middle (a := y) (l₁ := x :: xs) (l₂ := ys)).symm

theorem mem_merge (le : α → α → Bool) (xs ys : List α) (a : α) : a ∈ merge le xs ys ↔ a ∈ xs ∨ a ∈ ys := by
  rw [(merge_perm le xs ys).mem_iff, List.mem_append]

/-- A total, transitive comparison: what the byte-wise comparison of normalised keys is (C08's
order-embedding theorems). -/
structure TotalPreorder (le : α → α → Bool) : Prop where
  total : ∀ a b, le a b = true ∨ le b a = true
  trans : ∀ a b c, le a b = true → le b c = true → le a c = true

theorem merge_sorted (le : α → α → Bool) (h : TotalPreorder le) (xs ys : List α)
    (hx : xs.Pairwise (fun a b => le a b = true)) (hy : ys.Pairwise (fun a b => le a b = true)) :
    (merge le xs ys).Pairwise (fun a b => le a b = true) := by
  fun_induction merge le xs ys with
  | case1 ys => exact hy
  | case2 x xs => exact hx
  | case3 x xs y ys hle ih =>
    -- `x` is below the rest of its run, and below `y`, which is below the rest of the other run
    have hx' := List.pairwise_cons.mp hx
    exact List.pairwise_cons.mpr ⟨fun a ha => ((mem_merge ..).mp ha).elim (hx'.1 a)
      ((List.forall_mem_cons (p := fun b => le x b = true)).mpr
        ⟨hle, fun b hb => h.trans x y b hle ((List.pairwise_cons.mp hy).1 b hb)⟩ a), ih hx'.2 hy⟩
  | case4 x xs y ys hle ih =>
    have hy' := List.pairwise_cons.mp hy
    have hyx : le y x = true := (h.total x y).resolve_left hle
    exact List.pairwise_cons.mpr ⟨fun a ha => ((mem_merge ..).mp ha).elim
      ((List.forall_mem_cons (p := fun b => le y b = true)).mpr
        ⟨hyx, fun b hb => h.trans y x b hyx ((List.pairwise_cons.mp hx).1 b hb)⟩ a) (hy'.1 a),
      ih hx hy'.2⟩

/-- **Any merge order gives a sorted permutation of all rows**: however the merge queue pairs up
the sorted runs (any binary tree, any number of runs), the final run is sorted and contains
exactly the rows of all runs. -/
theorem merge_tree_sorted_perm (le : α → α → Bool) (h : TotalPreorder le) (t : Tree α) (ht : t.RunsSorted le) :
    (t.eval le).Pairwise (fun a b => le a b = true) ∧ (t.eval le).Perm t.rows := by
  induction t with
  | run rows => exact ⟨ht, List.Perm.refl _⟩
  | node l r ihl ihr =>
    obtain ⟨hl, hr⟩ := ht
    obtain ⟨sl, pl⟩ := ihl hl
    obtain ⟨sr, pr⟩ := ihr hr
    refine ⟨merge_sorted le h _ _ sl sr, ?_⟩
    exact (merge_perm le _ _).trans (List.Perm.append pl pr)

theorem merge_take_general (le : α → α → Bool) (n : Nat) (xs ys : List α) (a b : Nat) (ha : n ≤ a) (hb : n ≤ b) :
    (merge le xs ys).take n = (merge le (xs.take a) (ys.take b)).take n := by
  induction n generalizing xs ys a b with
  | zero => simp
  | succ n ih =>
    obtain ⟨a', rfl⟩ : ∃ a', a = a' + 1 := ⟨a - 1, by omega⟩
    obtain ⟨b', rfl⟩ : ∃ b', b = b' + 1 := ⟨b - 1, by omega⟩
    cases xs with
    | nil => cases ys <;> simp [merge, List.take_take, Nat.min_eq_left (show n ≤ b' by omega)]
    | cons x xs =>
      cases ys with
      | nil => simp [merge, List.take_take, Nat.min_eq_left (show n ≤ a' by omega)]
      | cons y ys =>
        simp only [List.take_succ_cons, merge]
        split <;> simp only [List.take_succ_cons, List.cons.injEq, true_and]
        · simpa [List.take_succ_cons] using ih xs (y :: ys) a' (b' + 1) (by omega) (by omega)
        · simpa [List.take_succ_cons] using ih (x :: xs) ys (a' + 1) b' (by omega) (by omega)

/-- **Limit hint**: the first `n` rows of a merge only depend on the first `n` rows of each run, so
truncating every run to `n` rows before merging (what `limit_hint` does at every stage) never loses
one of the first `n` output rows. -/
theorem merge_take (le : α → α → Bool) (n : Nat) (xs ys : List α) :
    (merge le xs ys).take n = (merge le (xs.take n) (ys.take n)).take n :=
  merge_take_general le n xs ys n n (Nat.le_refl _) (Nat.le_refl _)

example : merge (fun a b : Nat => a ≤ b) [1, 4, 9] [2, 3, 10] = [1, 2, 3, 4, 9, 10] := by simp [merge]

end GlareModel.Props.C08
