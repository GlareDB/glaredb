import GlareModel.Core.Tokens
import GlareModel.Props.C14
/-! # C15 — Every statement text yields a result or an error; the session survives

The part of the property that is logic: the tokenizer is a total function that always terminates
(every token consumes at least one character), fails only on a character it does not handle, and
produces at most one token per input character; the nesting depth a statement asks of the
recursive-descent parser is unbounded in the input length (no guard exists at the pinned commit);
and - from the catalog/session model of C14 - a failing statement leaves catalog and settings as
they were. -/
namespace GlareModel.Props.C15
open GlareModel GlareModel.Tokens

theorem dropWhile_len_le (p : Char → Bool) (l : List Char) : (l.dropWhile p).length ≤ l.length :=
  (List.dropWhile_sublist p).length_le

theorem takeNumber_rest_le (cs : List Char) (b : Bool) : (takeNumber cs b).2.length ≤ cs.length := by
  induction cs generalizing b with
  | nil => simp [takeNumber]
  | cons c cs ih =>
    unfold takeNumber
    split
    · have := ih b; simp only [List.length_cons]; omega
    · split
      · have := ih true; simp only [List.length_cons]; omega
      · simp

theorem takeNumber_progress (c : Char) (rest : List Char) (h : (isAsciiDigit c || c == '.') = true) :
    (takeNumber (c :: rest) false).2.length ≤ rest.length := by
  unfold takeNumber
  split
  · exact takeNumber_rest_le rest false
  · split
    · exact takeNumber_rest_le rest true
    · simp_all

theorem takeQuoted_rest_le (q : Char) (cs : List Char) : (takeQuoted q cs).2.length ≤ cs.length := by
  unfold takeQuoted
  have := dropWhile_len_le (fun x => x != q) cs
  simp only [List.length_drop]
  omega

/-- What one `next_token` call on `c :: r` can answer: a token and a rest no longer than `r`, or
the character `c` itself as the error. -/
def Step (c : Char) (r : List Char) : Except Char (Tok × List Char) → Prop
  | .ok (_, rest) => rest.length ≤ r.length
  | .error e => e = c

/-- Arm by arm. Splitting the goal `Step c r (if .. then .. else ..)` is several times cheaper to
check than splitting a hypothesis `(if .. then .. else ..) = some x`. -/
theorem nextToken_step (c : Char) (r : List Char) (x : Except Char (Tok × List Char))
    (h : nextToken (c :: r) = some x) : Step c r x := by
  simp only [nextToken, Option.some.injEq] at h
  subst h
  have hq1 := takeQuoted_rest_le '\'' r
  have hq2 := takeQuoted_rest_le '"' r
  have hd1 := dropWhile_len_le (fun x => x != '\n') (r.drop 1)
  have hd2 := dropWhile_len_le isIdentPart r
  have hdrop : (r.drop 1).length ≤ r.length := by simp
  repeat' split
  all_goals first
    | rfl
    | (simp only [Step]; omega)
    | exact takeNumber_progress c r ‹_›

/-- **Progress**: every successful `next_token` consumes at least one character. -/
theorem nextToken_progress (cs : List Char) (t : Tok) (rest : List Char)
    (h : nextToken cs = some (.ok (t, rest))) : rest.length < cs.length := by
  cases cs with
  | nil => simp [nextToken] at h
  | cons c r => exact Nat.lt_succ_of_le (nextToken_step c r _ h)

/-- **Termination** and size: with fuel `≥ cs.length` the loop ends (every token consumes a
character, so no input makes the tokenizer spin), with at most one token per input character. -/
theorem tokenizeFuel_spec (fuel : Nat) (cs : List Char) (h : cs.length ≤ fuel) :
    ∃ r, tokenizeFuel fuel cs = some r ∧ ∀ ts, r = .ok ts → ts.length ≤ cs.length := by
  induction fuel generalizing cs with
  | zero =>
    have : cs = [] := List.eq_nil_of_length_eq_zero (by omega)
    subst this; exact ⟨.ok [], rfl, by simp⟩
  | succ fuel ih =>
    unfold tokenizeFuel
    cases hn : nextToken cs with
    | none => exact ⟨.ok [], rfl, by simp⟩
    | some x =>
      cases x with
      | error c => exact ⟨.error c, rfl, by simp⟩
      | ok tr =>
        obtain ⟨t, rest⟩ := tr
        have hp := nextToken_progress cs t rest hn
        obtain ⟨r, hr, hlen⟩ := ih rest (by omega)
        simp only [hr]
        cases r with
        | error c => exact ⟨.error c, rfl, by simp⟩
        | ok ts => exact ⟨.ok (t :: ts), rfl, by have := hlen ts rfl; simp; omega⟩

theorem tokenize_total (cs : List Char) : tokenize cs ≠ none := by
  obtain ⟨r, hr, _⟩ := tokenizeFuel_spec cs.length cs (Nat.le_refl _)
  simp [tokenize, hr]

/-- At most one token per input character: the token vector cannot blow up. -/
theorem tokenize_length_le (cs : List Char) (ts : List Tok) (h : tokenize cs = some (.ok ts)) :
    ts.length ≤ cs.length := by
  obtain ⟨r, hr, hlen⟩ := tokenizeFuel_spec cs.length cs (Nat.le_refl _)
  exact hlen ts (Option.some.inj (hr.symm.trans h))

/-- The only failure is a character of the input that no match arm handles. -/
theorem nextToken_error_is_head (cs : List Char) (c : Char) (h : nextToken cs = some (.error c)) :
    cs.head? = some c := by
  cases cs with
  | nil => simp [nextToken] at h
  | cons d r => exact congrArg some (nextToken_step d r _ h).symm

/-! ### The recursion depth the parser needs is unbounded in the input -/

theorem nextToken_lparen (rest : List Char) : nextToken ('(' :: rest) = some (.ok (.sym "(", rest)) := by
  cases rest with
  | nil => rfl
  | cons d r =>
    simp only [nextToken, List.head?_cons]
    have h1 : findDouble '(' d = none := by simp [findDouble, doubles]
    have h2 : findSingle '(' = some "(" := by rfl
    simp [h1, h2]
theorem nextToken_rparen (rest : List Char) : nextToken (')' :: rest) = some (.ok (.sym ")", rest)) := by
  cases rest with
  | nil => rfl
  | cons d r =>
    simp only [nextToken, List.head?_cons]
    have h1 : findDouble ')' d = none := by simp [findDouble, doubles]
    have h2 : findSingle ')' = some ")" := by rfl
    simp [h1, h2]

theorem tokenize_opens (k fuel : Nat) (rest : List Char) (ts : List Tok)
    (h : tokenizeFuel fuel rest = some (.ok ts)) :
    tokenizeFuel (fuel + k) (List.replicate k '(' ++ rest) = some (.ok (List.replicate k (Tok.sym "(") ++ ts)) := by
  induction k with
  | zero => simpa using h
  | succ k ih =>
    rw [List.replicate_succ, List.cons_append, ← Nat.add_assoc]
    simp only [tokenizeFuel, nextToken_lparen, ih]
    rfl

theorem tokenize_closes (k : Nat) :
    tokenizeFuel k (List.replicate k ')') = some (.ok (List.replicate k (Tok.sym ")"))) := by
  induction k with
  | zero => rfl
  | succ k ih =>
    rw [List.replicate_succ]
    simp only [tokenizeFuel, nextToken_rparen, ih]
    rfl

theorem nextToken_one (k : Nat) :
    nextToken ('1' :: List.replicate k ')') = some (.ok (.num ['1'], List.replicate k ')')) := by
  cases k with
  | zero => rfl
  | succ k =>
    rw [List.replicate_succ]
    rfl

def nest (k : Nat) : List Char := List.replicate k '(' ++ ('1' :: List.replicate k ')')

theorem tokenize_nest (k : Nat) :
    tokenize (nest k) = some (.ok (List.replicate k (Tok.sym "(") ++ (Tok.num ['1'] :: List.replicate k (Tok.sym ")")))) := by
  unfold tokenize nest
  have hlen : (List.replicate k '(' ++ ('1' :: List.replicate k ')')).length = (k + 1) + k := by
    simp; omega
  rw [hlen]
  apply tokenize_opens
  simp only [tokenizeFuel, nextToken_one, tokenize_closes]

theorem parenDepth_opens (k cur mx : Nat) (ts : List Tok) (hle : cur ≤ mx) :
    parenDepth (List.replicate k (Tok.sym "(") ++ ts) cur mx = parenDepth ts (cur + k) (max mx (cur + k)) := by
  induction k generalizing cur mx with
  | zero => simp [Nat.max_eq_left hle]
  | succ k ih =>
    rw [List.replicate_succ, List.cons_append]
    simp only [parenDepth]
    rw [ih _ _ (by omega)]
    congr 1
    · omega
    · omega

theorem parenDepth_closes (k cur mx : Nat) :
    parenDepth (List.replicate k (Tok.sym ")")) cur mx = mx := by
  induction k generalizing cur with
  | zero => rfl
  | succ k ih =>
    rw [List.replicate_succ]
    simp only [parenDepth]
    exact ih _

/-- The nesting depth the parser must recurse to is unbounded in the statement text: a
statement of `2k+1` characters asks for depth `k`. -/
theorem paren_depth_unbounded (k : Nat) :
    ∃ cs ts, cs.length = 2 * k + 1 ∧ tokenize cs = some (.ok ts) ∧ parenDepth ts 0 0 = k := by
  refine ⟨nest k, _, ?_, tokenize_nest k, ?_⟩
  · simp [nest]; omega
  · rw [parenDepth_opens _ _ _ _ (Nat.le_refl _)]
    simp only [parenDepth, parenDepth_closes]
    omega

/-- After an error the session's catalog and settings are as before: the statement-step
specification of C14 (`Catalog.step`) returns the unchanged state for every failing statement. -/
theorem error_leaves_session_unchanged (t : Int) (s : Catalog.Sess) (st : Catalog.Stmt) (b : Bool)
    (h : (Catalog.step t s st).2 = .err b) : (Catalog.step t s st).1 = s :=
  C14.spec_failed_stmt_changes_nothing t s st b h

example : tokenize "SELECT a1,'x''y' FROM \"T\" -- c".toList =
    some (.ok [.word "SELECT".toList false, .ws, .word "a1".toList false, .sym ",", .str ['x'], .str ['y'], .ws,
      .word "FROM".toList false, .ws, .word ['T'] true, .ws, .comment " c".toList]) := by rfl

example : tokenize "1.2.3 .. <= <>!=||::=>".toList =
    some (.ok [.num "1.2".toList, .num ".3".toList, .ws, .sym ".", .sym ".", .ws, .sym "<=", .ws, .sym "<>", .sym "<>",
      .sym "||", .sym "::", .sym "=>"]) := by rfl

example : tokenize "a ? b".toList = some (.error '?') := by rfl

end GlareModel.Props.C15
