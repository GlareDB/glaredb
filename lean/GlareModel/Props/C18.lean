import GlareModel.Core.Unify
/-! # C18 — The announced schema is the schema of the rows produced

Theorems over the implicit-cast table generated from the running code
(`Generated/CastTable.lean`, rewritten by `tools/gen_tables.py` on every run, so a changed cast
rule changes the statements these proofs are about) and over the decimal result-type model. -/
namespace GlareModel.Props.C18
open GlareModel GlareModel.Generated GlareModel.Unify

/-- The enumeration used by the bounded quantifiers below is complete. -/
theorem all_complete (t : TyId) : t ∈ TyId.all := by cases t <;> decide

/-- An exact match always beats any implicit cast in overload resolution. -/
theorem no_cast_preferred : ∀ e ∈ castScores, e.2.2 < noCastScore := by decide +kernel

/-- Every row carries the score of the first row with the same target. (Comparing each row with
that first row only keeps the sweep near linear; all pairs would be quadratic in the table.) -/
theorem score_is_first :
    ∀ e ∈ castScores, (castScores.find? (·.2.1 == e.2.1)).map (·.2.2) = some e.2.2 := by decide +kernel

/-- The score of an implicit cast depends only on the target type: resolution never prefers a
signature because of *where* a value comes from. -/
theorem score_depends_only_on_target :
    ∀ e ∈ castScores, ∀ f ∈ castScores, e.2.1 = f.2.1 → e.2.2 = f.2.2 := by
  intro e he f hf h
  have h1 := score_is_first e he
  rw [h, score_is_first f hf] at h1
  exact (Option.some.inj h1).symm

/-- Implicit integer casts are widening (never signed→unsigned, never to a narrower type). -/
theorem int_implicit_widening : ∀ e ∈ castScores, intCastWidening e.1 e.2.1 = true := by decide +kernel

/-- No implicit cast turns a fractional type (float, decimal) into an integer type. -/
theorem no_fractional_to_int :
    ∀ e ∈ castScores, isFractional e.1 = true → (isSignedInt e.2.1).isNone ∧ (isUnsignedInt e.2.1).isNone := by
  decide +kernel

/-- What `unify_spec` asserts for one pair of branch types. -/
def unifyOk (a b : TyId) : Bool :=
  match unifyId a b with
  | none => (implicitScore a b).isNone && (implicitScore b a).isNone
  | some t => (t == a && (implicitScore b a).isSome) || (t == b && (implicitScore a b).isSome)

/-- Whatever the score table says: a case analysis on the two scores. -/
theorem unifyOk_true (a b : TyId) : unifyOk a b = true := by
  unfold unifyOk unifyId
  cases implicitScore a b <;> cases implicitScore b a <;> simp [optGe]
  rename_i s t
  by_cases h : s ≤ t <;> simp [h]

/-- UNION unification is a function of the two branch types; it fails exactly when neither branch
can be implicitly cast to the other, and otherwise yields one of the two types, to which the
other branch has an implicit cast - so both branches end up with one announced type. -/
theorem unify_spec : ∀ a ∈ TyId.all, ∀ b ∈ TyId.all, unifyOk a b = true :=
  fun a _ b _ => unifyOk_true a b

theorem implicitScore_mem {a b : TyId} {s : Nat} (h : implicitScore a b = some s) : (a, b, s) ∈ castScores := by
  obtain ⟨e, he, rfl⟩ := Option.map_eq_some_iff.mp h
  have hp := List.find?_some he
  simp only [Bool.and_eq_true, beq_iff_eq] at hp
  obtain ⟨rfl, rfl⟩ := hp
  exact List.mem_of_find?_eq_some he

/-- The one fact of the table that symmetry needs: two distinct types are never cast to each other
at the same score (with equal scores `unifyId` would prefer its left argument either way). -/
theorem score_asym : ∀ e ∈ castScores, e.1 ≠ e.2.1 → implicitScore e.2.1 e.1 ≠ some e.2.2 := by
  decide +kernel

/-- For branch types with different ids the unified type does not depend on the order of the
branches. -/
theorem unify_symmetric_all (a b : TyId) (h : a ≠ b) : unifyId a b = unifyId b a := by
  have hne : ∀ s, implicitScore a b = some s → implicitScore b a ≠ some s :=
    fun s hs => score_asym _ (implicitScore_mem hs) h
  unfold unifyId
  cases hs : implicitScore a b <;> cases ht : implicitScore b a <;> simp [optGe]
  rename_i s t
  have : t ≠ s := fun e => hne s hs (e ▸ ht)
  split <;> split <;> simp_all <;> omega

/-! ## Decimal `+`/`-`: the type announced at bind time vs. the type of the produced array -/

open GlareModel.Arith in
/-- The defect of the pinned commit (F46): binding `+` a second time on operands already cast to
the announced type yields a wider type - `DECIMAL(5,2) + DECIMAL(5,2)` announces `(6,2)`, the
produced array is `(7,2)`. -/
theorem rebind_changes_type :
    announced 64 (.dec ⟨64, 5, 2⟩) (.dec ⟨64, 5, 2⟩) = some ⟨64, 6, 2⟩ ∧
    producedPinned 64 (.dec ⟨64, 5, 2⟩) (.dec ⟨64, 5, 2⟩) = some ⟨64, 7, 2⟩ := by decide

open GlareModel.Arith in
/-- The repaired planner produces exactly the announced type, for all operand types. -/
theorem produced_eq_announced (bits : Nat) (l r : NumTy) : producedFixed bits l r = announced bits l r := rfl

end GlareModel.Props.C18
