import GlareModel.Core.Sem
import GlareModel.Core.Directory
/-! # C07 — Grouping, aggregates and duplicate elimination are exact per group

Aggregate states as in `functions/aggregate/builtin/{minmax,count,sum}.rs`: a value plus a
`valid` flag (`none` = no non-NULL input seen yet); `update` for one input, `merge` for two
partial states. NULL inputs are skipped by the executor, so inputs here are the non-NULL values. -/
namespace GlareModel.Props.C07

/-- `MaxStatePrimitive` / `MinStatePrimitive` over a linear order given by `better`. -/
def mmUpdate (better : Int → Int → Bool) (s : Option Int) (x : Int) : Option Int :=
  match s with
  | none => some x
  | some m => some (if better x m then x else m)

/-- `merge`: an invalid (`none`) partial state is ignored — it must not contribute its default value. -/
def mmMerge (better : Int → Int → Bool) (a b : Option Int) : Option Int :=
  match a, b with
  | none, b => b
  | a, none => a
  | some x, some y => some (if better y x then y else x)

def gt (a b : Int) : Bool := a > b
def lt (a b : Int) : Bool := a < b

/-- Folding from a state is merging the state with the fold from nothing, whenever choosing the
better of two values is an associative operation `op` (`max`, `min`). -/
theorem fold_from (better : Int → Int → Bool) (op : Int → Int → Int)
    (hop : ∀ a b, (if better a b then a else b) = op a b) (assoc : ∀ a b c, op (op a b) c = op a (op b c))
    (s : Option Int) (ys : List Int) :
    ys.foldl (mmUpdate better) s = mmMerge better s (ys.foldl (mmUpdate better) none) := by
  induction ys generalizing s with
  | nil => cases s <;> rfl
  | cons y ys ih =>
    rw [List.foldl_cons, List.foldl_cons, ih (mmUpdate better s y), ih (mmUpdate better none y)]
    cases s with
    | none => rfl
    | some m =>
      cases ys.foldl (mmUpdate better) none with
      | none => rfl
      | some r => simp only [mmUpdate, mmMerge, hop, assoc]

theorem gt_max (a b : Int) : (if gt a b then a else b) = max a b := by
  simp only [gt, Int.max_def, decide_eq_true_eq]; split <;> split <;> omega

theorem lt_min (a b : Int) : (if lt a b then a else b) = min a b := by
  simp only [lt, Int.min_def, decide_eq_true_eq]; split <;> split <;> omega

/-- **max is a homomorphism over any split of the input**: aggregating two partitions
separately and merging the partial states equals aggregating everything in one pass — including
partitions that saw no (non-NULL) row. -/
theorem max_split (xs ys : List Int) :
    mmMerge gt (xs.foldl (mmUpdate gt) none) (ys.foldl (mmUpdate gt) none) = (xs ++ ys).foldl (mmUpdate gt) none := by
  rw [List.foldl_append, fold_from gt max gt_max Int.max_assoc (xs.foldl (mmUpdate gt) none) ys]

theorem min_split (xs ys : List Int) :
    mmMerge lt (xs.foldl (mmUpdate lt) none) (ys.foldl (mmUpdate lt) none) = (xs ++ ys).foldl (mmUpdate lt) none := by
  rw [List.foldl_append, fold_from lt min lt_min Int.min_assoc (xs.foldl (mmUpdate lt) none) ys]

theorem max_fold_some (a m : Int) (ys : List Int) (h : ys.foldl (mmUpdate gt) (some a) = some m) :
    (m = a ∨ m ∈ ys) ∧ a ≤ m ∧ ∀ y ∈ ys, y ≤ m := by
  induction ys generalizing a with
  | nil => simp_all
  | cons y ys ih =>
    obtain ⟨h1, h2, h3⟩ := ih _ h
    rw [gt_max] at h1 h2
    refine ⟨?_, by omega, List.forall_mem_cons.mpr ⟨by omega, h3⟩⟩
    rcases h1 with h1 | h1
    · rw [h1, Int.max_def]; split <;> simp
    · exact Or.inr (List.mem_cons_of_mem _ h1)

/-- The result of max is an element of the input and dominates every element (so a negative
maximum can never be replaced by a default `0`). -/
theorem max_is_maximum (xs : List Int) (m : Int) (h : xs.foldl (mmUpdate gt) none = some m) :
    m ∈ xs ∧ ∀ x ∈ xs, x ≤ m := by
  cases xs with
  | nil => cases h
  | cons x xs =>
    obtain ⟨h1, h2, h3⟩ := max_fold_some x m xs h
    exact ⟨by simpa using h1, List.forall_mem_cons.mpr ⟨h2, h3⟩⟩

/-- count is a homomorphism: counts of partitions add up. -/
theorem count_split (xs ys : List Int) : (xs ++ ys).length = xs.length + ys.length := List.length_append

example : mmMerge gt (some (-7)) none = some (-7) := rfl   -- an invalid partial state never turns -7 into 0

/-! ## The hash table directory never fills up (`hash_table/directory.rs`)

Model: `Core/Directory.lean`, tied to the real `Directory` (needs_resize, resize, probing) by
`gvh directory` through a cfg hook. -/
section DirectoryCapacity
open GlareModel.Directory

theorem nextPow2From_ge (p n fuel : Nat) (hp : 0 < p) (hf : n ≤ p + fuel) : n ≤ nextPow2From p n fuel := by
  induction fuel generalizing p with
  | zero => simpa [nextPow2From] using hf
  | succ f ih =>
    simp only [nextPow2From]
    split
    · assumption
    · exact ih (2 * p) (by omega) (by omega)

theorem nextPow2_ge (n : Nat) : n ≤ nextPow2 n := by
  unfold nextPow2
  exact nextPow2From_ge 1 n n (by omega) (by omega)

/-- **The directory never fills up completely**: after every batch there is at least one empty
slot, for every sequence of batch sizes and numbers of new groups - so a linear probe always ends at
the row's group or at an empty slot and "Hash table completely full" is unreachable. -/
theorem batch_not_full (d : Dir) (n newGroups : Nat) (h : d.occupied < d.cap) :
    (batch d n newGroups).occupied < (batch d n newGroups).cap := by
  have h2 : min newGroups n ≤ n := Nat.min_le_right _ _
  simp only [batch]
  split
  · have := nextPow2_ge (max (d.cap * 2) (n + d.cap))
    have h1 : n + d.cap ≤ max (d.cap * 2) (n + d.cap) := Nat.le_max_right _ _
    omega
  · rename_i hr
    simp [needsResize] at hr
    omega

/-- From the initial directory: for every history of batches. -/
theorem directory_never_full (bs : List (Nat × Nat)) :
    (bs.foldl (fun d b => batch d b.1 b.2) init).occupied < (bs.foldl (fun d b => batch d b.1 b.2) init).cap :=
  List.foldlRecOn (motive := fun d => d.occupied < d.cap) bs _ (by decide) fun d hd b _ => batch_not_full d b.1 b.2 hd

/-- The capacity only grows (a resize never discards slots). -/
theorem batch_cap_mono (d : Dir) (n newGroups : Nat) : d.cap ≤ (batch d n newGroups).cap := by
  unfold batch
  simp only
  split
  · have := nextPow2_ge (max (d.cap * 2) (n + d.cap))
    have h1 : d.cap * 2 ≤ max (d.cap * 2) (n + d.cap) := Nat.le_max_left _ _
    omega
  · exact Nat.le_refl _

example : (batch init 2048 2048).cap = 4096 ∧ (batch init 300 300).cap = 512 ∧ (batch (batch init 300 300) 100 100).cap = 1024 := by decide

end DirectoryCapacity

end GlareModel.Props.C07
