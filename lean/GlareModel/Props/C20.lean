import GlareModel.Core.Like
import GlareModel.Core.Str

/-! # C20 — String functions are Unicode-correct; LIKE rewrites are equivalent -/
namespace GlareModel.Props.C20
open GlareModel.Like GlareModel.Str

/-- Characters that are neither wildcards nor the escape. -/
def plain (p : List Char) : Prop := ∀ c ∈ p, c ≠ '%' ∧ c ≠ '_' ∧ c ≠ '\\'

theorem likeMatch_plain_cons (c : Char) (rest s : List Char) (hc : c ≠ '%' ∧ c ≠ '_' ∧ c ≠ '\\') :
    likeMatch (c :: rest) s = match s with
      | x :: xs => x == c && likeMatch rest xs
      | [] => false := by
  rw [likeMatch.eq_def]
  split
  all_goals (try simp_all)
  all_goals (try (rename_i h; obtain ⟨rfl, rfl⟩ := h; rfl))

/-- Equality rewrite: a pattern without wildcards and escapes matches exactly itself. -/
theorem like_plain_is_equality (p s : List Char) (hp : plain p) : likeMatch p s = (s == p) := by
  induction p generalizing s with
  | nil => cases s <;> simp [likeMatch]
  | cons c rest ih =>
    rw [likeMatch_plain_cons c rest s (hp c List.mem_cons_self)]
    cases s with
    | nil => simp
    | cons x xs => simp [ih xs fun y hy => hp y (List.mem_cons_of_mem _ hy)]

theorem likeMatch_pct_nil (s : List Char) : likeMatch ['%'] s = true := by
  induction s with
  | nil => simp [likeMatch]
  | cons x xs ih => rw [likeMatch.eq_def]; simp [likeMatch, ih]

/-- Prefix rewrite: `lits%` matches exactly the strings that start with `lits`. -/
theorem like_prefix (lits s : List Char) (hp : plain lits) :
    likeMatch (lits ++ ['%']) s = lits.isPrefixOf s := by
  induction lits generalizing s with
  | nil => simp [likeMatch_pct_nil]
  | cons c rest ih =>
    rw [List.cons_append, likeMatch_plain_cons c _ s (hp c List.mem_cons_self)]
    cases s with
    | nil => simp
    | cons x xs => simp [ih xs fun y hy => hp y (List.mem_cons_of_mem _ hy), List.isPrefixOf, BEq.comm (a := x)]

/-- `%` followed by a pattern: matches iff the rest matches some suffix of the string. -/
theorem likeMatch_pct (rest s : List Char) :
    likeMatch ('%' :: rest) s = (likeMatch rest s || match s with
      | _ :: xs => likeMatch ('%' :: rest) xs
      | [] => false) := by
  rw [likeMatch.eq_def]
  split
  all_goals (try simp_all)
  all_goals (try rfl)
  all_goals (try (rename_i h1 h2 h; exact absurd h.1.symm h1))

/-- Suffix rewrite: `%lits` matches exactly the strings that end with `lits`. -/
theorem like_suffix (lits s : List Char) (hp : plain lits) :
    likeMatch ('%' :: lits) s = lits.isSuffixOf s := by
  induction s with
  | nil =>
    rw [likeMatch_pct, like_plain_is_equality lits [] hp]
    cases lits <;> simp [List.isSuffixOf]
  | cons x xs ih =>
    rw [likeMatch_pct, like_plain_is_equality lits (x :: xs) hp, Bool.eq_iff_iff]
    simp only [Bool.or_eq_true, beq_iff_eq, ih, List.isSuffixOf_iff_suffix, List.suffix_cons_iff,
      eq_comm (a := x :: xs)]

/-- Contains rewrite: `%lits%` matches exactly the strings that contain `lits`. -/
theorem like_contains (lits s : List Char) (hp : plain lits) :
    likeMatch ('%' :: lits ++ ['%']) s = isInfix lits s := by
  induction s with
  | nil =>
    rw [List.cons_append, likeMatch_pct, like_prefix lits [] hp]
    cases lits <;> simp [isInfix, List.isPrefixOf]
  | cons x xs ih =>
    rw [List.cons_append, likeMatch_pct, like_prefix lits (x :: xs) hp]
    rw [List.cons_append] at ih
    simp only [ih, isInfix]

/-- The absence of an escape is necessary: with the raw-pattern comparison the pinned commit
used, `'ab' LIKE 'a\b'` disagreed with the matcher (finding F13, repaired). -/
theorem escape_needs_general_matcher :
    likeMatch ['a', '\\', 'b'] ['a', 'b'] = true ∧ (['a', 'b'] == ['a', '\\', 'b']) = false := by
  constructor
  · simp [likeMatch]
  · decide

/-- `%` matches newlines (finding F13, repaired by the `(?s)` flag). -/
theorem pct_matches_newline : likeMatch ['a', '%'] ['a', '\n', 'b'] = true := by simp [likeMatch]

/-! String function laws on code points (every function returns a list of code points, hence
valid UTF-8 after encoding). -/

theorem left_right_split (s : List Char) (n : Nat) (h : n ≤ s.length) :
    left s n ++ right s (s.length - n : Nat) = s := by
  simp only [left, right, Int.natCast_nonneg, if_true, Int.toNat_natCast, ge_iff_le]
  have : s.length - (s.length - n) = n := by omega
  rw [this, List.take_append_drop]

theorem left_negative (s : List Char) (n : Nat) (hn : 0 < n) : left s (-(n : Int)) = s.take (s.length - n) := by
  unfold left
  have : ¬ (-(n : Int) ≥ 0) := by omega
  simp only [this, if_false, Int.neg_neg, Int.toNat_natCast]

theorem length_repeat (s : List Char) (n : Nat) : (repeat_ s n).length = n * s.length := by
  unfold repeat_
  simp only [Int.toNat_natCast]
  induction n with
  | zero => simp
  | succ k ih => simp [List.replicate_succ, ih, Nat.succ_mul, Nat.add_comm]

theorem reverse_reverse (s : List Char) : s.reverse.reverse = s := List.reverse_reverse s

theorem substring_length_le (s : List Char) (f c : Int) : (substring s f c).length ≤ s.length := by
  unfold substring; split <;> simp <;> omega

example : plain ['a', 'é', '.'] := by intro c hc; simp at hc; rcases hc with rfl | rfl | rfl <;> decide

end GlareModel.Props.C20
