import GlareModel.Core.Rle
import GlareModel.Core.Plain

/-! # C10 — Reading a valid Parquet file returns exactly the rows it encodes
(decoder level: the RLE / bit-packing hybrid used for definition levels, dictionary indices and booleans) -/
namespace GlareModel.Props.C10
open GlareModel.Rle

/-- **Batch-split independence** of the resumable decoder: reading `m + n` values in one call
gives the same values and the same final decoder state as reading `m` and then `n` — wherever
the split falls (mid RLE run, mid bit-packed group, at a non-zero bit position). -/
theorem readN_add (m n : Nat) (s : St) :
    readN (m + n) s = (readN m s).bind fun r1 => (readN n r1.2).map fun r2 => (r1.1 ++ r2.1, r2.2) := by
  induction m generalizing s with
  | zero =>
    simp only [Nat.zero_add, readN, Option.bind_some, List.nil_append]
    cases readN n s <;> simp
  | succ k ih =>
    have : k + 1 + n = (k + n) + 1 := by omega
    rw [this]
    simp only [readN]
    cases h1 : read1 (s.bytes.length + 2) s with
    | none => simp
    | some p =>
      obtain ⟨v, s'⟩ := p
      simp only [ih s']
      cases h2 : readN k s' with
      | none => simp
      | some q =>
        obtain ⟨vs, s''⟩ := q
        simp only [Option.bind_some]
        cases h3 : readN n s'' with
        | none => simp
        | some r => simp

/-- Any sequence of batch sizes yields the concatenation a single read of the total yields. -/
theorem chunked_read (sizes : List Nat) (s : St) :
    sizes.foldl (fun (acc : Option (List Nat × St)) n =>
        acc.bind fun a => (readN n a.2).map fun r => (a.1 ++ r.1, r.2)) (some ([], s))
      = readN sizes.sum s := by
  suffices key : ∀ (acc : Option (List Nat × St)),
      sizes.foldl (fun (acc : Option (List Nat × St)) n =>
        acc.bind fun a => (readN n a.2).map fun r => (a.1 ++ r.1, r.2)) acc
      = acc.bind fun a => (readN sizes.sum a.2).map fun r => (a.1 ++ r.1, r.2) by
    simp [key]
  induction sizes with
  | nil => intro acc; cases acc <;> simp [readN]
  | cons n ns ih =>
    intro acc
    rw [List.foldl_cons, ih, List.sum_cons]
    cases acc with
    | none => rfl
    | some a =>
      simp only [Option.bind_some, readN_add]
      cases readN n a.2 with
      | none => rfl
      | some r => simp [List.append_assoc, Function.comp_def]

/-- `readN` returns exactly the requested number of values. -/
theorem readN_length (n : Nat) (s : St) (vs : List Nat) (s' : St) (h : readN n s = some (vs, s')) : vs.length = n := by
  induction n generalizing s vs s' with
  | zero => simp [readN] at h; rw [h.1]; rfl
  | succ k ih =>
    simp only [readN] at h
    cases h1 : read1 (s.bytes.length + 2) s with
    | none => simp [h1] at h
    | some p =>
      obtain ⟨v, s1⟩ := p
      simp only [h1] at h
      cases h2 : readN k s1 with
      | none => simp [h2] at h
      | some q =>
        obtain ⟨vs1, s2⟩ := q
        simp only [h2, Option.some.injEq, Prod.mk.injEq] at h
        rw [← h.1]
        simp [ih s1 vs1 s2 h2]

/-- A truncated stream is reported (`none`), never read past its end: the model of the
`*_unchecked` reads. At the pinned commit the Rust code performs the read unchecked (finding F11). -/
theorem truncated_literal_run_is_oob : readN 9 { bytes := [0x03, 0x88, 0xC6, 0xFA], width := 3 } = none := by decide

example : readN 8 { bytes := [0x03, 0x88, 0xC6, 0xFA], width := 3 } = some ([0, 1, 2, 3, 4, 5, 6, 7], { bytes := [], width := 3 }) := by decide
example : readN 5 { bytes := [4, 5, 6, 1], width := 3 } = some ([5, 5, 1, 1, 1], { bytes := [], width := 3, curVal := 1 }) := by decide

/-! ## Data pages: definition levels place the PLAIN values (Core/Plain.lean) -/
section Pages
open GlareModel.Plain


/-- `placeLevels` succeeds exactly when there is one value per non-zero level, and then: one output row per
level, the non-NULL rows carry the values in order, and row `i` is NULL iff its level is 0. -/
theorem placeLevels_spec {α : Type} (ds : List Nat) (vs : List α) (rows : List (Option α))
    (h : placeLevels ds vs = some rows) :
    rows.length = ds.length ∧ rows.filterMap id = vs ∧
    ∀ i, i < ds.length → ((rows.getD i none).isSome ↔ ds.getD i 0 ≠ 0) := by
  fun_induction placeLevels ds vs generalizing rows with
  | case1 => cases h; simp
  | case2 => cases h
  | case3 ds vs ih =>
    obtain ⟨r, hr, rfl⟩ := Option.map_eq_some_iff.mp h
    obtain ⟨h1, h2, h3⟩ := ih r hr
    refine ⟨by simp [h1], by simpa using h2, fun i hi => ?_⟩
    cases i with
    | zero => simp
    | succ i => simpa using h3 i (by simpa using hi)
  | case4 d ds hd => cases h
  | case5 d ds hd v vs ih =>
    obtain ⟨r, hr, rfl⟩ := Option.map_eq_some_iff.mp h
    obtain ⟨h1, h2, h3⟩ := ih r hr
    refine ⟨by simp [h1], by simp [h2], fun i hi => ?_⟩
    cases i with
    | zero => simp [hd]
    | succ i => simpa using h3 i (by simpa using hi)

/-- ... and it does succeed whenever the counts match. -/
theorem placeLevels_total {α : Type} (ds : List Nat) (vs : List α) (h : (ds.filter (· != 0)).length = vs.length) :
    ∃ rows, placeLevels ds vs = some rows := by
  fun_induction placeLevels ds vs with
  | case1 => exact ⟨[], rfl⟩
  | case2 => simp at h
  | case3 ds vs ih => obtain ⟨r, hr⟩ := ih (by simpa using h); exact ⟨none :: r, by simp [hr]⟩
  | case4 d ds hd => simp [hd] at h
  | case5 d ds hd v vs ih => obtain ⟨r, hr⟩ := ih (by simpa [hd] using h); exact ⟨some v :: r, by simp [hr]⟩

/-- **Page-split independence of level placement**: placing the levels and values of two
consecutive pages separately and concatenating equals placing the concatenation. -/
theorem placeLevels_append {α : Type} (d1 d2 : List Nat) (v1 v2 : List α) (r1 r2 : List (Option α))
    (h1 : placeLevels d1 v1 = some r1) (h2 : placeLevels d2 v2 = some r2) :
    placeLevels (d1 ++ d2) (v1 ++ v2) = some (r1 ++ r2) := by
  fun_induction placeLevels d1 v1 generalizing r1 with
  | case1 => cases h1; simpa using h2
  | case2 => cases h1
  | case3 ds vs ih =>
    obtain ⟨r, hr, rfl⟩ := Option.map_eq_some_iff.mp h1
    simp [placeLevels, ih r hr]
  | case4 d ds hd => cases h1
  | case5 d ds hd v vs ih =>
    obtain ⟨r, hr, rfl⟩ := Option.map_eq_some_iff.mp h1
    simp [placeLevels, hd, ih r hr]

theorem le_leBytes (w v : Nat) (h : v < 256 ^ w) : le (Rle.leBytes w v) = v := by
  induction w generalizing v with
  | zero => simp [Rle.leBytes, le] at *; omega
  | succ w ih =>
    rw [Nat.pow_succ] at h
    rw [Rle.leBytes, le, ih _ (by omega)]
    omega

theorem leBytes_length (w v : Nat) : (Rle.leBytes w v).length = w := by
  induction w generalizing v with
  | zero => rfl
  | succ w ih => simp [Rle.leBytes, ih]

/-- **PLAIN fixed-width round trip**: decoding the little-endian encoding of any list of in-range
values returns exactly those values and consumes exactly their bytes (any count, any width). -/
theorem decodeFixed_encodeFixed (w : Nat) (vs : List Nat) (rest : List Nat) (h : ∀ v ∈ vs, v < 256 ^ w) :
    decodeFixed w vs.length (encodeFixed w vs ++ rest) = some (vs, rest) := by
  induction vs with
  | nil => simp [decodeFixed, encodeFixed]
  | cons v vs ih =>
    obtain ⟨hv, hvs⟩ := List.forall_mem_cons.mp h
    have hl := leBytes_length w v
    simp only [encodeFixed, List.flatMap_cons, List.length_cons, decodeFixed, List.append_assoc] at ih ⊢
    rw [if_neg (by simp [hl]), List.drop_left' hl, List.take_left' hl, ih hvs, le_leBytes w v hv]

example : decodePage .int32 true 4 [2, 0, 0, 0, 8, 1,  7, 0, 0, 0,  255, 255, 255, 255, 3, 0, 0, 0, 9, 0, 0, 0] =
    some [some (.int 7), some (.int (-1)), some (.int 3), some (.int 9)] := by decide
example : decodePage .int64 true 3 [4, 0, 0, 0, 2, 1, 4, 0,  5, 0, 0, 0, 0, 0, 0, 0] = some [some (.int 5), none, none] := by decide

end Pages

end GlareModel.Props.C10
