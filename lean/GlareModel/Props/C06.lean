import GlareModel.Core.Sem
import GlareModel.Core.Drain
import GlareModel.Props.C11
/-! # C06 — Joins return exactly the defined pairs and unmatched rows

Abstract model of the two join algorithms over arbitrary row types: the nested-loop join is the
definition; the hash join partitions the build side by an *arbitrary* hash function and probes
only the bucket of the probe key. A NULL key is `none` and matches nothing. -/
namespace GlareModel.Props.C06

variable {L R K : Type} [DecidableEq K]

def keyMatch (a b : Option K) : Bool :=
  match a, b with
  | some x, some y => x == y
  | _, _ => false

/-- Definition: all pairs whose keys are both non-NULL and equal, in probe-major order. -/
def nlJoin (kl : L → Option K) (kr : R → Option K) (ls : List L) (rs : List R) : List (L × R) :=
  ls.flatMap fun l => (rs.filter fun r => keyMatch (kl l) (kr r)).map fun r => (l, r)

/-- Bucket of the build side for a hash value (chain order = build order). -/
def bucket (h : K → Nat) (kr : R → Option K) (rs : List R) (hv : Nat) : List R :=
  rs.filter fun r => match kr r with
    | some k => h k == hv
    | none => false

/-- Hash join: a probe row with a NULL key matches nothing; otherwise only its bucket is compared. -/
def hashJoin (h : K → Nat) (kl : L → Option K) (kr : R → Option K) (ls : List L) (rs : List R) : List (L × R) :=
  ls.flatMap fun l =>
    match kl l with
    | none => []
    | some k => ((bucket h kr rs (h k)).filter fun r => keyMatch (some k) (kr r)).map fun r => (l, r)

/-- **The hash join equals the nested-loop join for every hash function** (collisions, constant
hashes, NULL keys, duplicates, empty sides included). -/
theorem hash_eq_nl (h : K → Nat) (kl : L → Option K) (kr : R → Option K) (ls : List L) (rs : List R) :
    hashJoin h kl kr ls rs = nlJoin kl kr ls rs := by
  unfold hashJoin nlJoin
  congr 1
  funext l
  cases hk : kl l with
  | none => simp [keyMatch]
  | some k =>
    simp only [bucket, List.filter_filter]
    congr 1
    apply List.filter_congr
    intro r _
    cases hr : kr r with
    | none => simp [keyMatch]
    | some k' =>
      simp only [keyMatch]
      by_cases e : k = k'
      · subst e; simp
      · simp [e]

/-- A NULL key on either side never produces a pair. -/
theorem null_key_matches_nothing (kl : L → Option K) (kr : R → Option K) (ls : List L) (rs : List R)
    (p : L × R) (hp : p ∈ nlJoin kl kr ls rs) : kl p.1 ≠ none ∧ kr p.2 ≠ none := by
  simp only [nlJoin, List.mem_flatMap, List.mem_map, List.mem_filter] at hp
  obtain ⟨l, _, r, ⟨_, hm⟩, rfl⟩ := hp
  simp only [keyMatch] at hm
  split at hm <;> simp_all

/-- LEFT join: matched pairs, and each unmatched probe row exactly once with a NULL partner. -/
def leftJoin (kl : L → Option K) (kr : R → Option K) (ls : List L) (rs : List R) : List (L × Option R) :=
  ls.flatMap fun l =>
    let m := rs.filter fun r => keyMatch (kl l) (kr r)
    if m.isEmpty then [(l, none)] else m.map fun r => (l, some r)

/-- Every probe row appears in a LEFT join; unmatched ones exactly once. -/
theorem left_join_preserves (kl : L → Option K) (kr : R → Option K) (ls : List L) (rs : List R) :
    (leftJoin kl kr ls rs).length = (nlJoin kl kr ls rs).length +
      (ls.filter fun l => (rs.filter fun r => keyMatch (kl l) (kr r)).isEmpty).length := by
  induction ls with
  | nil => simp [leftJoin, nlJoin]
  | cons l ls ih =>
    simp only [leftJoin, nlJoin, List.flatMap_cons, List.length_append, List.filter_cons] at ih ⊢
    by_cases he : (rs.filter fun r => keyMatch (kl l) (kr r)).isEmpty
    · simp only [he, if_true, List.length_cons, List.length_nil]
      have : (rs.filter fun r => keyMatch (kl l) (kr r)) = [] := List.isEmpty_iff.mp he
      simp only [this, List.map_nil, List.length_nil]
      omega
    · simp only [he, if_false, List.length_map, Bool.false_eq_true]
      omega

example : hashJoin (fun _ : Nat => 0) (fun l : Nat × Nat => if l.1 = 0 then none else some l.1) (fun r : Nat => some r)
    [(1, 10), (0, 11), (2, 12), (1, 13)] [1, 2, 1] = [((1, 10), 1), ((1, 10), 1), ((2, 12), 2), ((1, 13), 1), ((1, 13), 1)] := by decide

end GlareModel.Props.C06

/-! ## Draining the build side: every kept row exactly once (Core/Drain.lean) -/

namespace GlareModel.Props.C06
open GlareModel.Scan GlareModel.Drain
universe u
variable {α : Type u}

/-- The rows a drain keeps, in order. -/
def kept (keep : Bool → Bool) (l : List (Row α)) : List α := (l.filter fun r => keep r.2).map (·.1)

theorem kept_append (keep : Bool → Bool) (a b : List (Row α)) : kept keep (a ++ b) = kept keep a ++ kept keep b := by
  simp [kept]

theorem kept_cons (keep : Bool → Bool) (v : α) (m : Bool) (rest : List (Row α)) :
    kept keep ((v, m) :: rest) = if keep m then v :: kept keep rest else kept keep rest := by
  cases h : keep m <;> simp [kept, h]

/-- What one pass over (the rest of) a block does. -/
theorem scanBlock_spec (keep : Bool → Bool) (rows : List (Row α)) (i need : Nat) (hn : 0 < need) :
    match scanBlock keep rows i need with
    | (got, none) => got = kept keep rows ∧ got.length < need
    | (got, some next) => ∃ j, j ≤ rows.length ∧ next = i + j ∧ got = kept keep (rows.take j) ∧ got.length = need := by
  induction rows generalizing i need with
  | nil => simp [scanBlock, kept, hn]
  | cons r rest ih =>
    obtain ⟨v, m⟩ := r
    simp only [scanBlock]
    by_cases hk : keep m = true <;> simp only [hk, if_true, Bool.false_eq_true, if_false]
    · by_cases h1 : need = 1 <;> simp only [h1, if_true, if_false]
      · exact ⟨1, by simp, rfl, by simp [kept, hk], rfl⟩
      · have ih := ih (i + 1) (need - 1) (by omega)
        generalize scanBlock keep rest (i + 1) (need - 1) = r at ih ⊢
        obtain ⟨got, _ | next⟩ := r
        · exact ⟨by simp [kept_cons, hk, ih.1], by simp; omega⟩
        · obtain ⟨j, hj, hnext, hgot, hlen⟩ := ih
          exact ⟨j + 1, by simp; omega, by omega, by simp [kept_cons, hk, hgot], by simp; omega⟩
    · have ih := ih (i + 1) need hn
      generalize scanBlock keep rest (i + 1) need = r at ih ⊢
      obtain ⟨got, _ | next⟩ := r
      · exact ⟨by simp [kept_cons, hk, ih.1], ih.2⟩
      · obtain ⟨j, hj, hnext, hgot, hlen⟩ := ih
        exact ⟨j + 1, by simp; omega, by omega, by simp [kept_cons, hk, hgot], hlen⟩

/-- Unfolding `step_by` on a dropped list by index: the element at `k` (if any), then the stride from `k + P`. -/
theorem stepBy_drop (P : Nat) (hP : 0 < P) (xs : List α) (k : Nat) :
    stepBy P (xs.drop k) = match xs[k]? with
      | none => []
      | some x => x :: stepBy P (xs.drop (k + P)) := by
  cases h : xs[k]? with
  | none => simp [List.drop_eq_nil_of_le (by simpa using h), stepBy]
  | some x =>
    obtain ⟨hk, rfl⟩ := List.getElem?_eq_some_iff.mp h
    rw [List.drop_eq_getElem_cons hk, stepBy, List.drop_drop, show k + 1 + (P - 1) = k + P by omega]

/-- The rows partition `p` still has to look at from cursor `c`: the rest of the current block, then
every `P`-th block after it. -/
def remaining (blocks : List (List (Row α))) (P : Nat) (c : Cursor) : List (Row α) :=
  ((blocks[c.block]?).getD []).drop c.row ++ (stepBy P (blocks.drop (c.block + P))).flatten

theorem remaining_nil_of_le (blocks : List (List (Row α))) (P : Nat) (c : Cursor) (h : blocks.length ≤ c.block) :
    remaining blocks P c = [] := by
  simp [remaining, List.getElem?_eq_none h, List.drop_eq_nil_of_le (show blocks.length ≤ c.block + P by omega), stepBy]

theorem remaining_start (blocks : List (List (Row α))) (P : Nat) (hP : 0 < P) (b : Nat) :
    remaining blocks P { block := b, row := 0 } = (stepBy P (blocks.drop b)).flatten := by
  rw [stepBy_drop P hP blocks b]
  cases h : blocks[b]? with
  | none => exact remaining_nil_of_le blocks P _ (by simpa using h)
  | some x => simp [remaining, h]

/-- One `load_row_ptrs` call (with enough fuel to walk over the remaining blocks): the rows it pushes
followed by what the new cursor still has to yield are exactly what the old cursor had to yield; and
the batch is full, or the partition is exhausted. -/
theorem loadRows_spec (keep : Bool → Bool) (blocks : List (List (Row α))) (P : Nat) (hP : 0 < P)
    (fuel : Nat) (c : Cursor) (need : Nat) (hn : 0 < need) (hf : blocks.length < c.block + fuel * P) :
    let r := loadRows keep blocks P fuel c need
    r.1 ++ kept keep (remaining blocks P r.2) = kept keep (remaining blocks P c) ∧
      (r.1.length = need ∨ (r.1.length < need ∧ kept keep (remaining blocks P r.2) = [])) := by
  induction fuel generalizing c need with
  | zero => simp [loadRows, remaining_nil_of_le blocks P c (by omega), kept, hn]
  | succ fuel ih =>
    cases hb : blocks[c.block]? with
    | none => simp [loadRows, hb, remaining_nil_of_le blocks P c (by simpa using hb), kept, hn]
    | some b =>
      simp only [loadRows, hb]
      have hspec := scanBlock_spec keep (b.drop c.row) c.row need hn
      have hrem : kept keep (remaining blocks P c) =
          kept keep (b.drop c.row) ++ kept keep (remaining blocks P { block := c.block + P, row := 0 }) := by
        rw [remaining_start blocks P hP, remaining, hb, kept_append]; rfl
      generalize scanBlock keep (b.drop c.row) c.row need = sb at hspec ⊢
      obtain ⟨got, _ | next⟩ := sb
      · -- block exhausted: go on with our next block
        obtain ⟨hgot, hlt⟩ := hspec
        obtain ⟨h1, h2⟩ := ih { block := c.block + P, row := 0 } (need - got.length) (by omega)
          (by rw [Nat.succ_mul] at hf; simp only; omega)
        simp only at h1 h2 ⊢
        refine ⟨by rw [List.append_assoc, h1, hrem, hgot], ?_⟩
        rw [List.length_append]
        rcases h2 with h2 | ⟨h2, h3⟩
        · exact Or.inl (by omega)
        · exact Or.inr ⟨by omega, h3⟩
      · -- batch full inside the block
        obtain ⟨j, hj, rfl, rfl, hlen⟩ := hspec
        refine ⟨?_, Or.inl hlen⟩
        simp only [remaining, hb, Option.getD_some, kept_append, ← List.append_assoc]
        rw [← kept_append, ← List.drop_drop, List.take_append_drop]

/-- Draining a partition batch by batch (`drain_next` until it returns nothing) yields exactly the kept
rows of its blocks, in order, whatever the output batch capacity: the cursor never skips a row when a
batch fills up in the middle of a block and never re-reads one. -/
theorem drainAll_flatten (keep : Bool → Bool) (blocks : List (List (Row α))) (P cap : Nat) (hP : 0 < P) (hcap : 0 < cap)
    (fuel : Nat) (c : Cursor) (hf : (kept keep (remaining blocks P c)).length < fuel) :
    (drainAll keep blocks P cap fuel c).flatten = kept keep (remaining blocks P c) := by
  induction fuel generalizing c with
  | zero => omega
  | succ fuel ih =>
    obtain ⟨h1, h2⟩ := loadRows_spec keep blocks P hP (blocks.length + 1) c cap hcap
      (by have := Nat.le_mul_of_pos_right (blocks.length + 1) hP; omega)
    simp only [drainAll]
    generalize loadRows keep blocks P (blocks.length + 1) c cap = r at h1 h2 ⊢
    rw [← h1] at hf ⊢
    split
    · rename_i hempty
      simp only [List.isEmpty_iff.mp hempty, List.length_nil, List.nil_append] at h2 ⊢
      rcases h2 with h2 | h2
      · omega
      · exact h2.2.symm
    · rename_i hne
      have hpos : 0 < r.1.length := List.length_pos_iff.mpr (by simpa using hne)
      rw [List.flatten_cons, ih _ (by rw [List.length_append] at hf; omega)]

theorem stepBy_sublist (P : Nat) (xs : List α) : (stepBy P xs).Sublist xs := by
  fun_induction stepBy P xs with
  | case1 => exact List.Sublist.refl _
  | case2 x xs ih => exact List.Sublist.cons_cons x (ih.trans (List.drop_sublist _ _))

theorem flatten_length_le_of_sublist {l1 l2 : List (List α)} (h : l1.Sublist l2) : l1.flatten.length ≤ l2.flatten.length := by
  induction h <;> simp only [List.flatten_cons, List.length_append, List.flatten_nil, List.length_nil] <;> omega

theorem kept_flatMap_flatten (keep : Bool → Bool) (ps : List Nat) (f : Nat → List (List (Row α))) :
    kept keep (ps.flatMap f).flatten = ps.flatMap fun p => kept keep (f p).flatten := by
  induction ps <;> simp [kept_append, *] <;> rfl

/-- **Every unmatched build row is emitted exactly once**: for every partition count `P ≥ 1`, every
output batch capacity and every block layout of the build side, draining all partitions (each one
its blocks `p, p+P, p+2P, ...`, batch by batch) yields a permutation of the rows the drain keeps
(unmatched rows for LEFT, all rows for MARK) - none lost at a block or batch boundary, none twice. -/
theorem drain_exactly_once (keep : Bool → Bool) (blocks : List (List (Row α))) (P cap : Nat) (hP : 0 < P) (hcap : 0 < cap) :
    ((List.range P).flatMap fun p =>
        (drainAll keep blocks P cap (blocks.flatten.length + 1) { block := p, row := 0 }).flatten).Perm
      (kept keep blocks.flatten) := by
  have hperm := ((C11.skipStep_queues_partition P hP blocks).flatten.filter (fun r => keep r.2)).map (·.1)
  refine .trans (.of_eq ?_) hperm
  rw [← kept, kept_flatMap_flatten]
  refine flatMap_congr fun p _ => ?_
  have hrem := remaining_start blocks P hP p
  rw [drainAll_flatten keep blocks P cap hP hcap _ _ ?_, hrem, skipStep]
  -- fuel: the kept rows of a partition are at most all rows
  have h1 : (kept keep (remaining blocks P ⟨p, 0⟩)).length ≤ (stepBy P (blocks.drop p)).flatten.length := by
    rw [hrem, kept, List.length_map]; exact List.length_filter_le _ _
  have h2 := flatten_length_le_of_sublist ((stepBy_sublist P (blocks.drop p)).trans (List.drop_sublist _ _))
  omega

example : drainAll (fun m => !m) [[(1, false), (2, true), (3, false)], [(4, false)], [(5, false), (6, false)]] 2 2 8 { block := 0, row := 0 }
    = [[1, 3], [5, 6]] := by decide

section NotDistinct
variable {L R K : Type} [DecidableEq K]

/-- `IS NOT DISTINCT FROM` on nullable keys: NULL matches NULL. -/
def keyMatchND (a b : Option K) : Bool := decide (a = b)

def nlJoinND (kl : L → Option K) (kr : R → Option K) (ls : List L) (rs : List R) : List (L × R) :=
  ls.flatMap fun l => (rs.filter fun r => keyMatchND (kl l) (kr r)).map fun r => (l, r)

/-- Hash join keyed on an `IS NOT DISTINCT FROM` condition: NULL keys are hashed like any other value
(`hh` hashes the nullable key) and the row matcher compares with `keyMatchND`. -/
def hashJoinND (hh : Option K → Nat) (kl : L → Option K) (kr : R → Option K) (ls : List L) (rs : List R) : List (L × R) :=
  ls.flatMap fun l =>
    ((rs.filter fun r => hh (kr r) == hh (kl l)).filter fun r => keyMatchND (kl l) (kr r)).map fun r => (l, r)

/-- **Hashing on an IS NOT DISTINCT FROM key is sound for every hash function**: the hash join
returns exactly the nested-loop join's pairs, NULL keys matching NULL keys (the join back of a
decorrelated subquery is planned this way since the repair of F37). -/
theorem hash_eq_nl_not_distinct (hh : Option K → Nat) (kl : L → Option K) (kr : R → Option K) (ls : List L) (rs : List R) :
    hashJoinND hh kl kr ls rs = nlJoinND kl kr ls rs := by
  unfold hashJoinND nlJoinND
  congr 1
  funext l
  simp only [List.filter_filter]
  congr 1
  apply List.filter_congr
  intro r _
  by_cases e : kl l = kr r
  · simp [keyMatchND, e]
  · simp [keyMatchND, e]

/-- NULL keys do match each other under IS NOT DISTINCT FROM (and never under `=`). -/
theorem null_keys_match_not_distinct :
    nlJoinND (fun x : Option Nat => x) (fun y : Option Nat => y) [none, some 1] [none, some 2] = [(none, none)] ∧
      nlJoin (fun x : Option Nat => x) (fun y : Option Nat => y) [none, some 1] [none, some 2] = [] := by decide

end NotDistinct

end GlareModel.Props.C06
