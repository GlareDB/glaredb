import GlareModel.Core.Sem
/-! # C03 — Results are independent of partitions, batch size and join algorithm

`limitRun` models `PhysicalLimit::poll_execute` (`execution/operators/limit.rs`): shared
`remaining_offset` / `remaining_count`, one batch per step, three branches. -/
namespace GlareModel.Props.C03

structure LimitSt where
  remOffset : Nat
  remCount : Nat
  deriving Repr, DecidableEq

/-- One `poll_execute` on a batch `xs`: skip the offset, then emit up to the remaining count. -/
def limitStep (s : LimitSt) (xs : List α) : LimitSt × List α :=
  if s.remOffset ≥ xs.length then
    -- whole batch is skipped
    ({ s with remOffset := s.remOffset - xs.length }, [])
  else
    let ys := xs.drop s.remOffset
    let out := ys.take s.remCount
    ({ remOffset := 0, remCount := s.remCount - out.length }, out)

/-- Feed the batches in order, concatenating the outputs. -/
def limitRun (s : LimitSt) : List (List α) → List α
  | [] => []
  | b :: bs =>
    let (s', out) := limitStep s b
    out ++ limitRun s' bs

/-- The two branches of `limitStep` are one formula: truncated subtraction does the case split. -/
theorem limitStep_eq (s : LimitSt) (xs : List α) :
    limitStep s xs =
      (⟨s.remOffset - xs.length, s.remCount - (xs.length - s.remOffset)⟩, (xs.drop s.remOffset).take s.remCount) := by
  unfold limitStep
  split
  next h => rw [List.drop_eq_nil_of_le h, Nat.sub_eq_zero_of_le h, List.take_nil]; rfl
  next h =>
    rw [Nat.sub_eq_zero_of_le (Nat.le_of_not_ge h)]
    simp only [List.length_take, List.length_drop, ← Nat.sub_eq_sub_min]

/-- **Any batching gives the slice**: however the input is cut into batches (any sizes, including
empty batches and batches that straddle the offset or the limit), the single-partition limit
operator outputs exactly `(input.drop offset).take count`. -/
theorem limitRun_spec (bs : List (List α)) (s : LimitSt) :
    limitRun s bs = (bs.flatten.drop s.remOffset).take s.remCount := by
  induction bs generalizing s with
  | nil => simp [limitRun]
  | cons b bs ih =>
    simp only [limitRun, limitStep_eq, ih, List.flatten_cons, List.drop_append, List.take_append, List.length_drop]

/-- Corollary: the output never depends on where the batch boundaries fall. -/
theorem limit_batching_independent (bs cs : List (List α)) (s : LimitSt) (h : bs.flatten = cs.flatten) :
    limitRun s bs = limitRun s cs := by
  rw [limitRun_spec, limitRun_spec, h]

/-- The number of rows a LIMIT emits depends only on how many rows arrive, not on which partition's
batch is served first: the operator state is shared by all partitions, so a multi-partition run is
`limitRun` on the batches in arrival order, whatever that order is. -/
theorem limit_length (bs : List (List α)) (s : LimitSt) :
    (limitRun s bs).length = min s.remCount (bs.flatten.length - s.remOffset) := by
  rw [limitRun_spec, List.length_take, List.length_drop]

theorem limit_count_schedule_independent (bs cs : List (List α)) (s : LimitSt)
    (h : bs.flatten.length = cs.flatten.length) :
    (limitRun s bs).length = (limitRun s cs).length := by
  rw [limit_length, limit_length, h]

/-- Every row a LIMIT emits is a row it received (it never invents or duplicates rows: the output
is a contiguous slice of the arrival order). -/
theorem limit_sublist (bs : List (List α)) (s : LimitSt) :
    (limitRun s bs).Sublist bs.flatten := by
  rw [limitRun_spec]
  exact (List.take_sublist _ _).trans (List.drop_sublist _ _)

example : limitRun ⟨2, 3⟩ [[1, 2, 3], [], [4, 5], [6, 7, 8]] = [3, 4, 5] := by decide

/-- `scan_inner` after the repair of F36: a stored chunk is handed out in slices of at most
`capacity.max(1)` rows; `chunk_row_offset` is the length of what has been handed out. -/
def sliceChunk (cap : Nat) (xs : List α) : List (List α) :=
  if h : xs.length ≤ max cap 1 then [xs]
  else xs.take (max cap 1) :: sliceChunk cap (xs.drop (max cap 1))
termination_by xs.length
decreasing_by
  simp only [List.length_drop]
  have : 1 ≤ max cap 1 := Nat.le_max_right _ _
  omega

/-- The batches a scan produces for a list of stored chunks. -/
def scanBatches (cap : Nat) (chunks : List (List α)) : List (List α) := chunks.flatMap (sliceChunk cap)

theorem sliceChunk_flatten (cap : Nat) (xs : List α) : (sliceChunk cap xs).flatten = xs := by
  fun_induction sliceChunk cap xs with
  | case1 xs h => simp
  | case2 xs h ih => simp [ih]

theorem sliceChunk_le (cap : Nat) (xs : List α) : ∀ b ∈ sliceChunk cap xs, b.length ≤ max cap 1 := by
  fun_induction sliceChunk cap xs with
  | case1 xs h => exact List.forall_mem_singleton.mpr h
  | case2 xs h ih => exact List.forall_mem_cons.mpr ⟨List.length_take_le .., ih⟩

/-- **A scan returns every stored row exactly once, in order, in batches no larger than the output
capacity** - whatever the sizes of the stored chunks and whatever batch size wrote them. -/
theorem scan_batches_spec (cap : Nat) (chunks : List (List α)) :
    (scanBatches cap chunks).flatten = chunks.flatten ∧ ∀ b ∈ scanBatches cap chunks, b.length ≤ max cap 1 := by
  refine ⟨?_, fun b hb => ?_⟩
  · simp [scanBatches, List.flatMap_def, List.flatten_flatten, Function.comp_def, sliceChunk_flatten]
  · obtain ⟨c, _, hbc⟩ := List.mem_flatMap.mp hb
    exact sliceChunk_le cap c b hbc

/-- The scan of the pinned commit returned each chunk whole: with a chunk of five rows and an output
capacity of two it produced a batch of five rows (the operator downstream then indexed past its
buffers: F36). -/
theorem unsliced_scan_exceeds_capacity :
    ∃ b ∈ ([[1, 2, 3, 4, 5]] : List (List Nat)), ¬ b.length ≤ 2 := ⟨[1, 2, 3, 4, 5], by simp, by decide⟩

example : scanBatches 2 [[1, 2, 3, 4, 5], [], [6]] = [[1, 2], [3, 4], [5], [], [6]] := by
  simp [scanBatches, sliceChunk]

end GlareModel.Props.C03
