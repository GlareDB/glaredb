import GlareModel.Core.Sem
import GlareModel.Core.CaseExpr

/-! # C05 — Scalar operators follow their definition on all values, whatever the vector shape

Model of the vectorised binary executor (`arrays/executor/scalar/binary.rs`): an array is a
physical buffer, a validity mask indexed by *logical* row and a selection mapping logical rows to
buffer positions (flat = identity, constant = all zeros, dictionary = arbitrary). The executor has
an all-valid fast path and a per-row validity path. -/
namespace GlareModel.Props.C05
open GlareModel.Sem

structure Vec (α : Type) where
  data : List α
  valid : List Bool      -- by logical row
  sel : List Nat         -- logical row ↦ index into `data`

/-- Logical value of row `i`. -/
def Vec.get [Inhabited α] (v : Vec α) (i : Nat) : Option α :=
  if v.valid.getD i true then some (v.data.getD (v.sel.getD i 0) default) else none

def Vec.allValid (v : Vec α) : Bool := v.valid.all id

def liftNull (f : α → β → γ) : Option α → Option β → Option γ
  | some a, some b => some (f a b)
  | _, _ => none

/-- Fast path: no validity checks at all. -/
def fastPath [Inhabited α] [Inhabited β] (f : α → β → γ) (a : Vec α) (b : Vec β) (rows : List Nat) : List (Option γ) :=
  rows.map fun i => some (f (a.data.getD (a.sel.getD i 0) default) (b.data.getD (b.sel.getD i 0) default))

/-- Validity path: a row is computed only when both inputs are valid, otherwise NULL. -/
def validityPath [Inhabited α] [Inhabited β] (f : α → β → γ) (a : Vec α) (b : Vec β) (rows : List Nat) : List (Option γ) :=
  rows.map fun i =>
    if a.valid.getD i true && b.valid.getD i true then
      some (f (a.data.getD (a.sel.getD i 0) default) (b.data.getD (b.sel.getD i 0) default))
    else none

def binaryExec [Inhabited α] [Inhabited β] (f : α → β → γ) (a : Vec α) (b : Vec β) (rows : List Nat) : List (Option γ) :=
  if a.allValid && b.allValid then fastPath f a b rows else validityPath f a b rows

theorem getD_of_all {l : List Bool} (h : l.all id = true) (i : Nat) : l.getD i true = true := by
  rw [List.getD_eq_getElem?_getD]
  cases hi : l[i]? with
  | none => rfl
  | some b => exact List.all_eq_true.mp h b (List.mem_of_getElem? hi)

theorem validityPath_eq [Inhabited α] [Inhabited β] (f : α → β → γ) (a : Vec α) (b : Vec β) (rows : List Nat) :
    validityPath f a b rows = rows.map fun i => liftNull f (a.get i) (b.get i) :=
  List.map_congr_left fun i _ => by
    unfold Vec.get
    cases a.valid.getD i true <;> cases b.valid.getD i true <;> rfl

theorem fastPath_eq_validityPath [Inhabited α] [Inhabited β] (f : α → β → γ) {a : Vec α} {b : Vec β}
    (ha : a.allValid) (hb : b.allValid) (rows : List Nat) : fastPath f a b rows = validityPath f a b rows :=
  List.map_congr_left fun i _ => by rw [getD_of_all ha, getD_of_all hb]; rfl

/-- **The executor is a map over logical values**: for every vector shape (flat, constant,
dictionary-selected, any validity) and every batch selection, the output is
`liftNull f (a[i]) (b[i])` for each selected row — so the value cannot depend on the
representation, and the fast path agrees with the validity path. -/
theorem executor_is_map [Inhabited α] [Inhabited β] (f : α → β → γ) (a : Vec α) (b : Vec β) (rows : List Nat) :
    binaryExec f a b rows = rows.map fun i => liftNull f (a.get i) (b.get i) := by
  rw [← validityPath_eq]
  unfold binaryExec
  split
  next h =>
    rw [Bool.and_eq_true] at h
    exact fastPath_eq_validityPath f h.1 h.2 rows
  next => rfl

/-- NOT does not turn NULL into TRUE (so `WHERE NOT p` drops rows where `p` is NULL). -/
theorem not_null_is_null : not3 .null = .ok .null := rfl

/-- Kleene truth tables (whole domain). -/
theorem kleene_tables :
    and3 (.bool false) .null = .ok (.bool false) ∧ and3 .null (.bool false) = .ok (.bool false) ∧
    and3 (.bool true) .null = .ok .null ∧ or3 (.bool true) .null = .ok (.bool true) ∧
    or3 .null (.bool true) = .ok (.bool true) ∧ or3 (.bool false) .null = .ok .null ∧
    and3 .null .null = .ok .null ∧ or3 .null .null = .ok .null := by
  refine ⟨rfl, rfl, rfl, rfl, rfl, rfl, rfl, rfl⟩

example : binaryExec (· + ·) (⟨[10, 20], [true, false, true], [0, 1, 1]⟩ : Vec Nat) ⟨[5], [true, true, true], [0, 0, 0]⟩ [0, 1, 2]
    = [some 15, none, some 25] := by decide

end GlareModel.Props.C05

/-! ## CASE: nested selections and scatter (Core/CaseExpr.lean) -/

namespace GlareModel.Props.C05
open GlareModel.CaseExpr
universe u v
variable {ρ : Type u} {β : Type v}

theorem scatter_cons (out : List (Option β)) (w : Nat × β) (ws : List (Nat × β)) :
    scatter out (w :: ws) = scatter (out.set w.1 (some w.2)) ws := rfl

theorem scatter_length (out : List (Option β)) (ws : List (Nat × β)) : (scatter out ws).length = out.length := by
  induction ws generalizing out with
  | nil => rfl
  | cons w ws ih => rw [scatter_cons, ih, List.length_set]

/-- `scatter` on the writes the CASE loop hands it: distinct positions hold what was written, all
others are left alone. Stated in the shape of `evalLoop_spec`, whose base case it is (`g := els`) and
whose step uses it for the arm's own writes (`g := a.val`). -/
theorem scatter_map_spec (g : ρ → β) (cur : List (Nat × ρ)) (out : List (Option β))
    (hnd : (cur.map (·.1)).Nodup) (hlt : ∀ p ∈ cur, p.1 < out.length) :
    (∀ p ∈ cur, (scatter out (cur.map fun p => (p.1, g p.2))).getD p.1 none = some (g p.2)) ∧
    (∀ i, (∀ p ∈ cur, p.1 ≠ i) → (scatter out (cur.map fun p => (p.1, g p.2))).getD i none = out.getD i none) := by
  induction cur generalizing out with
  | nil => exact ⟨nofun, fun _ _ => rfl⟩
  | cons q cur ih =>
    obtain ⟨hq, hnd⟩ := List.nodup_cons.mp hnd
    obtain ⟨hqlt, hlt⟩ := List.forall_mem_cons.mp hlt
    obtain ⟨h1, h2⟩ := ih (out.set q.1 (some (g q.2))) hnd fun p hp => by rw [List.length_set]; exact hlt p hp
    rw [List.map_cons, scatter_cons]
    refine ⟨List.forall_mem_cons.mpr ⟨?_, h1⟩, fun i hi => ?_⟩
    · -- written first, never overwritten by the remaining writes
      rw [h2 q.1 fun p hp he => hq (List.mem_map.mpr ⟨p, hp, he⟩), List.getD_eq_getElem?_getD,
        List.getElem?_set_self hqlt]
      rfl
    · obtain ⟨hqi, hi⟩ := List.forall_mem_cons.mp hi
      rw [h2 i hi, List.getD_eq_getElem?_getD, List.getD_eq_getElem?_getD, List.getElem?_set_ne hqi]

theorem evalLoop_length (els : ρ → β) (arms : List (Arm ρ β)) (cur : List (Nat × ρ)) (out : List (Option β)) :
    (evalLoop els arms cur out).length = out.length := by
  fun_induction evalLoop els arms cur out with
  | case1 cur out => exact scatter_length ..
  | case2 a rest cur out taken fall ih => rw [ih, scatter_length]

/-- The loop invariant: every row still in `cur` ends up with the value the specification gives
it for the remaining arms; every other output position is left alone. -/
theorem evalLoop_spec (els : ρ → β) (arms : List (Arm ρ β)) (cur : List (Nat × ρ)) (out : List (Option β))
    (hnd : (cur.map (·.1)).Nodup) (hlt : ∀ p ∈ cur, p.1 < out.length) :
    (∀ p ∈ cur, (evalLoop els arms cur out).getD p.1 none = some (spec arms els p.2)) ∧
    (∀ i, (∀ p ∈ cur, p.1 ≠ i) → (evalLoop els arms cur out).getD i none = out.getD i none) := by
  induction arms generalizing cur out with
  | nil => exact scatter_map_spec els cur out hnd hlt
  | cons a rest ih =>
    rw [evalLoop]
    -- the taken rows and the rows falling through have disjoint positions, each without duplicates
    have hsplit := ((List.filter_append_perm (fun p : Nat × ρ => a.cond p.2 == some true) cur).map (·.1)).nodup_iff.mpr hnd
    rw [List.map_append, List.nodup_append] at hsplit
    obtain ⟨htaken, hfall, hdisj⟩ := hsplit
    obtain ⟨s1, s2⟩ := scatter_map_spec a.val _ out htaken fun p hp => hlt p (List.mem_filter.mp hp).1
    obtain ⟨ih1, ih2⟩ := ih _ (scatter out _) hfall fun p hp => by
      rw [scatter_length]; exact hlt p (List.mem_filter.mp hp).1
    refine ⟨fun p hp => ?_, fun i hi => ?_⟩
    · rw [spec]
      split
      next hc =>
        -- taken by this arm: written now, untouched by the rest of the loop
        have hpt : p ∈ cur.filter fun p => a.cond p.2 == some true := List.mem_filter.mpr ⟨hp, beq_iff_eq.mpr hc⟩
        rw [ih2 p.1 fun q hq he => hdisj _ (List.mem_map_of_mem hpt) _ (List.mem_map_of_mem hq) he.symm]
        exact s1 p hpt
      next hc => exact ih1 p (List.mem_filter.mpr ⟨hp, bne_iff_ne.mpr hc⟩)
    · rw [ih2 i fun q hq => hi q (List.mem_filter.mp hq).1]
      exact s2 i fun q hq => hi q (List.mem_filter.mp hq).1

/-- **CASE is a map of "first TRUE arm, else ELSE" over the selected rows**: for every list of arms,
every batch, and every selection (any subset, any order, repeated rows) the dense output of the
loop - nested selections, per-arm scatter - is `spec` applied to each selected row. In particular
the result of a row does not depend on which other rows are selected (the property the F16 defect
broke by scattering to physical row indices). -/
theorem eval_spec [Inhabited ρ] (arms : List (Arm ρ β)) (els : ρ → β) (rows : List ρ) (sel : List Nat) :
    eval arms els rows sel = sel.map fun r => some (spec arms els (rows.getD r default)) := by
  unfold eval
  have hfst : ((sel.zipIdx).map fun p => (p.2, rows.getD p.1 default)).map (·.1) = List.range sel.length := by
    rw [List.map_map, List.range_eq_range']
    exact List.zipIdx_map_snd ..
  obtain ⟨h1, _⟩ := evalLoop_spec els arms _ (List.replicate sel.length none) (hfst ▸ List.nodup_range) fun p hp => by
    rw [List.length_replicate]; exact List.mem_range.mp (hfst ▸ List.mem_map_of_mem hp)
  refine List.ext_getElem (by rw [evalLoop_length, List.length_replicate, List.length_map]) fun i _ hi => ?_
  rw [List.length_map] at hi
  rw [List.getElem_map, List.getElem_eq_getD none]
  exact h1 (i, rows.getD sel[i] default) <| List.mem_map.mpr
    ⟨(sel[i], i), List.mk_mem_zipIdx_iff_getElem?.mpr (List.getElem?_eq_getElem hi), rfl⟩

example : eval [⟨fun (r : Nat) => some (decide (r > 3)), fun r => r * 10⟩, ⟨fun r => if r = 2 then none else some (decide (r > 1)), fun r => r * 100⟩]
    (fun r => 0 - r) [0, 1, 2, 3, 4, 5] [5, 2, 3, 0] = [some 50, some 0, some 300, some 0] := by decide

/-- The pinned commit's scatter to physical row indices is wrong as soon as the selection is not the
identity: rows 4 and 5 selected, the values land outside the two output slots. -/
theorem pinned_case_scatter_wrong :
    evalPinned [⟨fun (r : Nat) => some (decide (r > 4)), fun r => r * 10⟩] (fun r => r) [0, 1, 2, 3, 4, 5] [4, 5] = [none, none] ∧
    eval [⟨fun (r : Nat) => some (decide (r > 4)), fun r => r * 10⟩] (fun r => r) [0, 1, 2, 3, 4, 5] [4, 5] = [some 4, some 50] := by decide

end GlareModel.Props.C05
