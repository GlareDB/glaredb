import GlareModel.Core.Proto
import GlareModel.Core.ExecStack
import GlareModel.Core.Materialize
import GlareModel.Proofs.ExecStack
/-! # C04 — Every schedule terminates with the same result; no wake-up is lost

Invariants of the scheduling protocol models, proved for every reachable state, i.e. for every
interleaving of wakes (including spurious and repeated ones), worker steps and cancellation. -/
namespace GlareModel.Props.C04
open GlareModel GlareModel.Proto

/-! ## Thread-pool task -/

structure TaskInv (s : Task) : Prop where
  phase_running : s.phase ≠ .idle → s.running = true
  completed_idle : s.completed = true → s.phase = .idle
  pending_running : s.pending = true → s.running = true
  /-- no lost wake: a wake that arrived after the last poll started is followed by another poll -/
  owed_served : s.owed = true → s.completed = false → s.canceled = false → s.pending = true ∨ s.phase = .spawned
  never_polled_after_complete : s.pollsAfterComplete = 0

theorem task_inv_init : TaskInv {} := by
  constructor <;> simp

/-- Every action against every branch of `schedule` and of the worker's epilogue. The one case with
content: a poll that ends with `pending` unset was not followed by a wake, so `owed` is only still
set if the task completed or was cancelled. -/
theorem task_inv_step (s : Task) (a : Act) (h : TaskInv s) : TaskInv (step s a) := by
  have ⟨h1, h2, h3, h4, h5⟩ := h
  cases a with
  | wake => simp only [step, schedule]; (repeat' split) <;> first | exact h | (constructor <;> simp_all)
  | cancel => simp only [step, schedule]; split <;> constructor <;> simp_all
  | workerBegin => simp only [step]; split <;> first | exact h | (constructor <;> simp_all)
  | workerEnd r => simp only [step]; (repeat' split) <;> first | exact h | (constructor <;> simp_all)

/-- The invariant holds in every reachable state: for every schedule of wakes, cancellations and
worker steps. -/
theorem task_inv_reachable (acts : List Act) : TaskInv (run {} acts) :=
  List.foldlRecOn (motive := TaskInv) acts step task_inv_init fun s hs a _ => task_inv_step s a hs

/-- **No wake-up is lost**: in every reachable state, a wake that arrived after the last poll
began (and the task is neither completed nor cancelled) is recorded: either `pending` is set, so the
worker loops once more, or a worker run is already queued. -/
theorem task_no_lost_wake (acts : List Act) :
    let s := run {} acts
    s.owed = true → s.completed = false → s.canceled = false → s.pending = true ∨ s.phase = .spawned :=
  (task_inv_reachable acts).owed_served

/-- **A finished task is never run again**: no schedule polls a task after it completed. -/
theorem task_never_polled_after_complete (acts : List Act) : (run {} acts).pollsAfterComplete = 0 :=
  (task_inv_reachable acts).never_polled_after_complete

/-- **Cancelling makes the stream end with an error**: whatever the task is doing (idle, queued,
in the middle of a poll), a cancellation of an uncompleted task reports the error to the sink in
the same step. -/
theorem cancel_reports_error (s : Task) (h : s.completed = false) : (step s .cancel).errorSet = true := by
  simp [step, schedule, h]

/-- **An error in a task reaches the client**: the poll's error is pushed to the error sink. -/
theorem poll_error_reported (s : Task) (h : s.phase = .executing) : (step s (.workerEnd .err)).errorSet = true := by
  simp only [step, h, if_true]
  split <;> (try split) <;> simp

example : (run {} [.wake, .workerBegin, .wake, .workerEnd .pending]).phase = .spawned := by decide

/-! ## Phase barrier -/

structure BarrierInv (b : Barrier) : Prop where
  flag_zero : b.flag = true → b.remaining = 0
  /-- a parked partition that has not been woken has its waker stored and the flag is not set -/
  parked_ok : ∀ p, b.parked p = true → b.woken p = false → b.flag = false ∧ b.stored p = true

theorem barrier_inv_init (n : Nat) : BarrierInv (Barrier.init n) := by
  constructor <;> simp [Barrier.init]

theorem barrier_inv_step (b : Barrier) (a : BAct) (h : BarrierInv b) : BarrierInv (bstep b a) := by
  obtain ⟨h1, h2⟩ := h
  cases a with
  | arrive p =>
    simp only [bstep]
    split
    · exact ⟨fun _ => rfl, fun q hq hw => by
        rw [Bool.or_eq_false_iff] at hw
        simp_all [h2 q hq hw.1]⟩
    · exact ⟨fun hf => by have := h1 hf; simp_all, h2⟩
  | await p =>
    simp only [bstep]
    split <;> refine ⟨h1, fun q hq hw => ?_⟩ <;> by_cases hqp : q = p <;> simp_all

theorem barrier_inv_reachable (n : Nat) (acts : List BAct) : BarrierInv (brun (Barrier.init n) acts) :=
  List.foldlRecOn (motive := BarrierInv) acts bstep (barrier_inv_init n) fun b hb a _ => barrier_inv_step b a hb

/-- **No partition stays parked behind an open barrier**: for every number of partitions and every
interleaving of arrivals and polls, once the flag is set every parked partition has been woken -
a waker stored before the flag was set is woken by the `wake_all` of the critical section that
set it, and a later poll sees the flag. -/
theorem barrier_no_lost_wake (n : Nat) (acts : List BAct) (p : Nat) :
    let b := brun (Barrier.init n) acts
    b.flag = true → b.parked p = true → b.woken p = true := by
  intro b hf hp
  cases hw : b.woken p with
  | true => rfl
  | false => exact absurd (((barrier_inv_reachable n acts).parked_ok p hp hw).1.symm.trans hf) nofun

/-- The defective variant (flag set without `wake_all`) loses a wake-up: partition 0 parks, the
single arrival opens the barrier, partition 0 is never woken. -/
theorem missing_wake_all_loses_wake :
    let b := [BAct.await 0, BAct.arrive 1].foldl bstepNoWake (Barrier.init 1)
    b.flag = true ∧ b.parked 0 = true ∧ b.woken 0 = false := by decide

example : (brun (Barrier.init 2) [.await 0, .arrive 1, .await 1, .arrive 0]).woken 0 = true := by decide

/-! ## Execution stack of a partition pipeline

`ExecutionStack::pop_next` (model: `Core/ExecStack.lean`, tied to the real stack by `gvh execstack`)
drives the operators of one partition. Other partitions wait on cross-partition barriers inside the
operators (the drain phase of a LEFT/RIGHT join waits for every probing partition to finalize), so
"every schedule terminates" needs: **a partition pipeline never finishes while one of its operators
has neither been finalized nor answered `Exhausted`**. The poll results are the script, so the
theorem covers every behaviour of the operators, every number of operators and every length of run.
The only hypothesis is the protocol the operators keep: the operator acting as the start of the
pipeline never answers `NeedsMore` (`broke = false`). -/

open GlareModel.ExecStack GlareModel.Proofs.ExecStack in
/-- **A finished pipeline has told every operator**: for every number of operators and every
sequence of poll results, when the repaired stack reports `Finished`, every operator but the source
has been finalized or has answered `Exhausted`, and no operator was finalized twice. -/
theorem stack_finished_all_finalized (n : Nat) (hn : 0 < n) (script : List Nat)
    (hb : (ExecStack.run true n script).broke = false)
    (hf : (ExecStack.run true n script).flow = .finished) :
    (∀ j, 1 ≤ j → j < n →
        j ∈ finalizedOps (ExecStack.run true n script).calls ∨ j ∈ exhaustedOps (ExecStack.run true n script).calls) ∧
      (finalizedOps (ExecStack.run true n script).calls).Nodup := by
  have h := run_inv n hn script hb
  rwa [hf] at h

open GlareModel.ExecStack GlareModel.Proofs.ExecStack in
/-- **No operator is finalized twice** while the pipeline runs (any state that is not an error). -/
theorem stack_finalizes_once (n : Nat) (hn : 0 < n) (script : List Nat)
    (hb : (ExecStack.run true n script).broke = false)
    (hf : (ExecStack.run true n script).flow ≠ .error) :
    (finalizedOps (ExecStack.run true n script).calls).Nodup := by
  exact (run_inv n hn script hb).nodup hf

/-- The stack of the pinned commit (before the repair of F38/F64) violates it: four operators, the
source and operator 1 answer `Ready`, operator 2 (a LIMIT) answers `Exhausted`, the sink takes the
last batch and is finalized - the pipeline finishes and operator 1 (the probe side of a join) was
never finalized. The operators kept the protocol. -/
theorem old_stack_skips_finalize :
    let s := ExecStack.run false 4 [0, 0, 4, 0, 0]
    s.flow = .finished ∧ s.broke = false ∧
      1 ∉ ExecStack.finalizedOps s.calls ∧ 1 ∉ ExecStack.exhaustedOps s.calls := by decide

/-- The same script on the repaired stack: operator 1 is finalized (`f1`) before the sink runs. -/
example : ExecStack.trace true 4 [0, 0, 4, 0, 0, 0] = "e0:0 e1:0 e2:4 f1:0 e3:0 f3:0 end=1" := by decide

/-- Non-vacuity of the hypotheses: a run that finishes with the protocol kept. -/
example : (ExecStack.run true 4 [0, 0, 4, 0, 0, 0]).flow = .finished ∧ (ExecStack.run true 4 [0, 0, 4, 0, 0, 0]).broke = false := by decide

/-! ## Materialize: a consumer never finishes before it has seen every row, and never sleeps forever

Model: `Core/Materialize.lean` (`operators/materialize.rs`; tied to the code by the
`cte_materialized_*` shapes of the controlled-scheduler runs, where the materialization is scanned
two and three times under every schedule). -/
section Materialize
open GlareModel.Materialize

structure MatInv (m : Mat) : Prop where
  seen_le : ∀ c, m.seen c ≤ m.avail
  /-- a consumer that reported Exhausted has seen every row, and no row can arrive any more -/
  done_complete : ∀ c, m.phase c = .done → m.remaining = 0 ∧ m.seen c = m.avail
  /-- a parked consumer that has not been woken still has a producer that will wake it -/
  parked_has_waker : ∀ c, m.phase c = .parked → m.woken c = false → m.remaining > 0

theorem mat_inv_init (n : Nat) : MatInv { remaining := n } := by
  constructor <;> simp

/-- A step of consumer `c` leaves the other consumers' entries and the counters alone: the invariant
needs re-checking at `c` only. -/
theorem MatInv.at {m m' : Mat} (h : MatInv m) (c : Nat) (hr : m'.remaining = m.remaining) (ha : m'.avail = m.avail)
    (hs : ∀ x, x ≠ c → m'.seen x = m.seen x) (hp : ∀ x, x ≠ c → m'.phase x = m.phase x)
    (hw : ∀ x, x ≠ c → m'.woken x = m.woken x)
    (c1 : m'.seen c ≤ m.avail) (c2 : m'.phase c = .done → m.remaining = 0 ∧ m'.seen c = m.avail)
    (c3 : m'.phase c = .parked → m'.woken c = false → m.remaining > 0) : MatInv m' where
  seen_le x := by
    by_cases hx : x = c
    · rw [hx, ha]; exact c1
    · rw [hs x hx, ha]; exact h.seen_le x
  done_complete x := by
    by_cases hx : x = c
    · rw [hx, hr, ha]; exact c2
    · rw [hp x hx, hs x hx, hr, ha]; exact h.done_complete x
  parked_has_waker x := by
    by_cases hx : x = c
    · rw [hx, hr]; exact c3
    · rw [hp x hx, hw x hx, hr]; exact h.parked_has_waker x

theorem mat_inv_step (m : Mat) (a : Materialize.Act) (h : MatInv m) : MatInv (Materialize.step true m a) := by
  cases a with
  | push =>
    simp only [Materialize.step]
    split
    · exact h
    · exact ⟨fun c => Nat.le_succ_of_le (h.1 c), fun c hc => by have := h.2 c hc; omega,
        fun c hc hw => by simp_all [wakeAll]⟩
  | finalize =>
    simp only [Materialize.step]
    split
    · exact h
    · exact ⟨h.1, fun c hc => by have := h.2 c hc; omega, fun c hc hw => by simp_all [wakeAll]⟩
  | scan c | check c =>
    have h1 := h.1 c
    simp only [Materialize.step]
    repeat' split
    all_goals first
      | exact h
      | (refine h.at c rfl rfl ?_ ?_ ?_ ?_ ?_ ?_ <;> try (intro x hx; exact if_neg hx)) <;> simp_all <;> omega

theorem mat_inv_reachable (n : Nat) (acts : List Materialize.Act) : MatInv (Materialize.run true { remaining := n } acts) :=
  List.foldlRecOn (motive := MatInv) acts _ (mat_inv_init n) fun m hm a _ => mat_inv_step m a hm


/-- **A consumer that reports Exhausted has seen every row**, for every number of producers and
consumers and every interleaving of appends, finishes, scans and locked checks - this is what the
second scan in `poll_pull` is for. -/
theorem materialize_done_saw_everything (n : Nat) (acts : List Materialize.Act) (c : Nat) :
    let m := Materialize.run true { remaining := n } acts
    m.phase c = .done → m.remaining = 0 ∧ m.seen c = m.avail :=
  (mat_inv_reachable n acts).done_complete c

/-- **No consumer sleeps forever**: a consumer that is parked and has not been woken still has a
producer that has not finished - and every push and every finish wakes all parked consumers. Once
all producers have finished nobody is parked un-woken. -/
theorem materialize_no_lost_wake (n : Nat) (acts : List Materialize.Act) (c : Nat) :
    let m := Materialize.run true { remaining := n } acts
    m.remaining = 0 → m.phase c = .parked → m.woken c = true := by
  intro m hr hp
  cases hw : m.woken c with
  | true => rfl
  | false => exact absurd hr (Nat.ne_of_gt ((mat_inv_reachable n acts).parked_has_waker c hp hw))

/-- Without the second scan a consumer loses rows: its scan finds nothing, the only producer then
flushes a row and finishes, the locked check sees no producers left and reports Exhausted. -/
theorem materialize_without_rescan_loses_rows :
    let m := Materialize.run false { remaining := 1 } [Materialize.Act.scan 0, .push, .finalize, .check 0]
    m.phase 0 = .done ∧ m.seen 0 = 0 ∧ m.avail = 1 := by decide

/-- The same schedule with the second scan: the consumer picks the row up and stays runnable. -/
example : (Materialize.run true { remaining := 1 } [Materialize.Act.scan 0, .push, .finalize, .check 0]).seen 0 = 1 := by decide
example : (Materialize.run true { remaining := 1 } [Materialize.Act.scan 0, .push, .finalize, .check 0, .scan 0, .check 0]).phase 0 = .done := by decide

end Materialize

end GlareModel.Props.C04
