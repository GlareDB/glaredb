import GlareModel.Core.Varint
import GlareModel.Core.Footer
import GlareModel.Core.Csv
import GlareModel.Core.Rle
/-! # C19 — Malformed Parquet/CSV input fails cleanly, never crashes or hangs (partial)

What the models can carry: the footer loader never reads outside the file and (after the repair)
never sizes a buffer from an untrusted length larger than the file; the CSV decoder is a total
function whose output never exceeds its input; the RLE/bit-packed decoder reports a truncated
stream instead of over-reading (Props/C10). -/
namespace GlareModel.Props.C19
open GlareModel

/-! ## Parquet footer -/
open Footer in
/-- The three outcomes of the loader: rejected before anything is allocated; (unchecked loader only)
rejected after the buffer was sized from a length that does not fit; accepted, the length fits. -/
theorem load_cases (c : Bool) (tail : List Nat) (size : Nat) :
    load c tail size = .err 0 ∨
    (c = false ∧ size < le32 (tail.take 4) + footerSize ∧ load c tail size = .err (le32 (tail.take 4))) ∨
    (le32 (tail.take 4) + footerSize ≤ size ∧
      load c tail size = .ok (size - footerSize - le32 (tail.take 4)) (le32 (tail.take 4)) (le32 (tail.take 4))) := by
  unfold load
  iterate 3 (split; exact .inl rfl)
  by_cases hfit : le32 (tail.take 4) + footerSize ≤ size
  · exact .inr (.inr ⟨hfit, by simp [Nat.not_lt.mpr hfit]⟩)
  · cases c
    · exact .inr (.inl ⟨rfl, by omega, by simp [Nat.lt_of_not_le hfit]⟩)
    · exact .inl (by simp [Nat.lt_of_not_le hfit])

open Footer in
/-- An accepted footer designates a metadata slice that lies inside the file, directly before the
8 footer bytes. -/
theorem footer_ok_in_file (c : Bool) (tail : List Nat) (size off len alloc : Nat)
    (h : load c tail size = .ok off len alloc) : off + len + footerSize = size ∧ alloc = len := by
  rcases load_cases c tail size with h' | ⟨_, _, h'⟩ | ⟨hle, h'⟩ <;> rw [h'] at h <;> cases h
  exact ⟨by simp only [footerSize] at *; omega, rfl⟩

open Footer in
/-- The repaired loader never allocates more than the file holds, whatever the length field says. -/
theorem footer_checked_alloc_le_size (tail : List Nat) (size : Nat) : (load true tail size).alloc ≤ size := by
  rcases load_cases true tail size with h' | ⟨h, _⟩ | ⟨hle, h'⟩
  · simp [h', Res.alloc]
  · cases h
  · simp only [h', Res.alloc]; omega

open Footer in
/-- The pinned commit sized the buffer from the untrusted length before validating it: a 12-byte
file can ask for 4 GiB (finding F12; repaired by a `fix:` commit). -/
theorem footer_unchecked_alloc_unbounded :
    (load false [255, 255, 255, 255, 80, 65, 82, 49] 12).alloc = 4294967295 ∧
    (load true [255, 255, 255, 255, 80, 65, 82, 49] 12) = .err 0 := by decide

open Footer in
/-- Every outcome is an error or an in-file slice: there is no third case (totality). -/
theorem footer_total (c : Bool) (tail : List Nat) (size : Nat) :
    (∃ a, load c tail size = .err a) ∨ (∃ off len a, load c tail size = .ok off len a) := by
  cases h : load c tail size with
  | err a => exact Or.inl ⟨a, rfl⟩
  | ok off len a => exact Or.inr ⟨off, len, a, rfl⟩

/-! ## CSV: the decoder is total and its output is bounded by its input -/

open Csv in
def weight (s : Dec) : Nat :=
  s.field.length + (s.fields.map List.length).sum + (s.out.map fun r => (r.map List.length).sum).sum

open Csv in
theorem step_weight_le (d q : Nat) (s : Dec) (b : Nat) : weight (step d q s b) ≤ weight s + 1 := by
  unfold step
  cases s.st <;> simp only <;> (repeat' split) <;>
    simp [weight, Dec.endField, Dec.endRecord, List.sum_cons, List.length_reverse] <;> omega

open Csv in
/-- Decoding any byte string (invalid UTF-8, unterminated quotes, NUL bytes, ...) never fails - the
decoder is a total function - and the bytes it holds never exceed the bytes it was given. -/
theorem decode_weight_le (d q : Nat) (s : Dec) (chunk : List Nat) :
    weight (decode d q s chunk) ≤ weight s + chunk.length := by
  unfold decode
  induction chunk generalizing s with
  | nil => simp
  | cons b bs ih =>
    rw [List.foldl_cons]
    have h1 := step_weight_le d q s b
    have h2 := ih (step d q s b)
    simp only [List.length_cons]
    omega

/-! ## RLE / bit-packed hybrid: truncated input is reported (from C10) -/

example : Rle.readN 9 { bytes := [3, 255], width := 1 } = none := by decide

/-! ## Thrift varints (`thrift.rs`, `read_vlq`; model `Core/Varint.lean`, tied by `gvh varint`) -/
section Varints
open GlareModel.Varint

/-- The repaired reader never evaluates a shift of 64 or more, on any input. -/
theorem vlq_checked_never_overflows (acc shift consumed : Nat) (bytes : List Nat) :
    ∀ s, readVlqFrom true acc shift consumed bytes ≠ .shiftOverflow s := by
  induction bytes generalizing acc shift consumed with
  | nil => intro s; simp [readVlqFrom]
  | cons b bs ih =>
    intro s
    simp only [readVlqFrom]
    split
    · simp
    · split
      · simp
      · exact ih _ _ _ s

/-- A successfully read varint consumed at most ten bytes and at most what was there. -/
theorem vlq_consumed_bound (c : Bool) (acc shift consumed : Nat) (bytes : List Nat) (v n : Nat)
    (hs : shift = 7 * consumed)
    (h : readVlqFrom c acc shift consumed bytes = .ok v n) : n ≤ 10 ∧ n ≤ consumed + bytes.length ∧ v < 2 ^ 64 := by
  induction bytes generalizing acc shift consumed with
  | nil => simp [readVlqFrom] at h
  | cons b bs ih =>
    simp only [readVlqFrom] at h
    split at h
    · split at h <;> simp at h
    · rename_i hsh
      split at h
      · injection h with h1 h2
        subst h1 h2
        refine ⟨by omega, by simp, ?_⟩
        exact Nat.mod_lt _ (by decide)
      · have := ih _ (shift + 7) (consumed + 1) (by omega) h
        simp only [List.length_cons]
        omega

theorem vlq_total_from (acc shift consumed : Nat) (bytes : List Nat) :
    (∃ v n, readVlqFrom true acc shift consumed bytes = .ok v n) ∨ readVlqFrom true acc shift consumed bytes = .eof ∨
      readVlqFrom true acc shift consumed bytes = .tooLong := by
  induction bytes generalizing acc shift consumed with
  | nil => simp [readVlqFrom]
  | cons b bs ih =>
    simp only [readVlqFrom]
    split
    · simp
    · split
      · exact Or.inl ⟨_, _, rfl⟩
      · exact ih _ _ _

/-- The reader is total: every byte string gives a value, end of input, or (repaired) "too long". -/
theorem vlq_total (bytes : List Nat) :
    (∃ v n, readVlq true bytes = .ok v n) ∨ readVlq true bytes = .eof ∨ readVlq true bytes = .tooLong :=
  vlq_total_from 0 0 0 bytes

/-- The pinned commit on eleven continuation bytes: the eleventh shift is by 70 (F62). -/
theorem vlq_unchecked_overflows :
    readVlq false (List.replicate 11 0x80) = .shiftOverflow 70 := by decide

example : readVlq true [0xAC, 0x02] = .ok 300 2 := by decide
example : readVlq true (List.replicate 11 0x80) = .tooLong := by decide

end Varints

end GlareModel.Props.C19
