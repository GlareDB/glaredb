/-
Code-shaped model of integer and decimal arithmetic:
`functions/scalar/builtin/arith/{add,sub,mul,div,rem}.rs`, `negate.rs`, `arith/decimal_arith.rs`,
the operand casts of `functions/cast/builtin/to_decimal.rs` and `SumStateCheckedAdd` of
`functions/aggregate/builtin/sum.rs`.

Values are mathematical integers (`Int`); a fixed-width type is a range. A Rust native
operator (`a + b`, `a / b`, …) is modelled by what it computes when the exact result is
representable and by `trap` otherwise (debug builds panic, release builds wrap): the code at
the pinned commit uses native operators, so `trap` is an outcome of the *model*; the property
(C12) demands an error instead.
-/
namespace GlareModel.Arith

structure IntTy where
  bits : Nat
  signed : Bool
  deriving Repr, DecidableEq, Inhabited

def IntTy.lo (t : IntTy) : Int := if t.signed then -(2 ^ (t.bits - 1) : Nat) else 0
def IntTy.hi (t : IntTy) : Int := if t.signed then (2 ^ (t.bits - 1) : Nat) - 1 else (2 ^ t.bits : Nat) - 1
def IntTy.inRange (t : IntTy) (x : Int) : Bool := t.lo ≤ x && x ≤ t.hi

/-- Two's complement wrap-around (what a release build computes on overflow). -/
def IntTy.wrap (t : IntTy) (x : Int) : Int :=
  let m := x % (2 ^ t.bits : Nat)
  if t.signed && m ≥ (2 ^ (t.bits - 1) : Nat) then m - (2 ^ t.bits : Nat) else m

inductive Trap where
  | overflow
  | divZero
  deriving Repr, DecidableEq, Inhabited

/-- Result of a native Rust operator. -/
inductive Native where
  | val (v : Int)
  | trap (k : Trap)
  deriving Repr, DecidableEq, Inhabited

def exactOr (t : IntTy) (r : Int) : Native :=
  if t.inRange r then .val r else .trap .overflow

def natAdd (t : IntTy) (a b : Int) : Native := exactOr t (a + b)
def natSub (t : IntTy) (a b : Int) : Native := exactOr t (a - b)
def natMul (t : IntTy) (a b : Int) : Native := exactOr t (a * b)
/-- Rust `/` on integers: truncation toward zero; `x / 0` and `MIN / -1` trap. -/
def natDiv (t : IntTy) (a b : Int) : Native :=
  if b = 0 then .trap .divZero else exactOr t (Int.tdiv a b)
/-- Rust `%`: sign of the dividend; `x % 0` and `MIN % -1` trap. -/
def natRem (t : IntTy) (a b : Int) : Native :=
  if b = 0 then .trap .divZero
  else if t.signed && a == t.lo && b == -1 then .trap .overflow
  else .val (Int.tmod a b)
def natNeg (t : IntTy) (a : Int) : Native := exactOr t (-a)

/-! ## Decimals -/

structure DecTy where
  bits : Nat        -- 64 or 128 (storage i64 / i128)
  prec : Nat
  scale : Int
  deriving Repr, DecidableEq, Inhabited

def maxPrec (bits : Nat) : Nat := if bits = 64 then 18 else 38
def DecTy.storage (d : DecTy) : IntTy := ⟨d.bits, true⟩

inductive NumTy where
  | int (t : IntTy)
  | dec (d : DecTy)
  deriving Repr, DecidableEq, Inhabited

/-- `DecimalTypeMeta::new_for_datatype_id` for integer types: (precision, scale 0). -/
def decMetaOfInt (t : IntTy) : Nat :=
  match t.bits with
  | 8 => 3
  | 16 => 5
  | 32 => 10
  | 64 => if t.signed then 19 else 20
  | _ => 38

/-- Outcome of an SQL-level operation. -/
inductive Out where
  | ok (ty : NumTy) (v : Int)
  | err                    -- the engine reports an error
  | trap (k : Trap)        -- native operator overflow / division by zero (panic or wrap)
  | unsupported
  deriving Repr, DecidableEq, Inhabited

/-- `DecimalType::validate_precision`: at most `p` significant digits. -/
def validPrec (v : Int) (p : Nat) : Bool := v.natAbs < 10 ^ p

/-- `IntToDecimal::cast` into `(bits, p, s)` (scale ≥ 0 in generated cases):
`v.checked_mul(10^s)` in the decimal primitive, then `validate_precision`. -/
def intToDec (d : DecTy) (v : Int) : Option Int :=
  let st := d.storage
  if !st.inRange v then none else
  let val := if d.scale > 0 then v * (10 ^ d.scale.toNat : Nat) else Int.tdiv v (10 ^ (-d.scale).toNat : Nat)
  if !st.inRange val then none
  else if validPrec val d.prec then some val else none

/-- `v ± rounding_addition` of the down-scaling branch (`rounding_addition = amt / 2`). -/
def roundAdj (v amt : Int) : Int :=
  if v ≥ 0 then v + Int.tdiv amt 2 else v - Int.tdiv amt 2

/-- The scaling step of `DecimalToDecimal::cast` in the target primitive `st`:
up-scale with `checked_mul`, or down-scale with `(v ± 10^k/2) / 10^k` (truncating division). -/
def rescaleCore (st : IntTy) (diff : Int) (v : Int) : Option Int :=
  if diff < 0 then
    let r := v * (10 ^ (-diff).toNat : Nat)
    if st.inRange r then some r else none
  else if diff > 0 then
    let amt : Int := (10 ^ diff.toNat : Nat)
    if st.inRange (roundAdj v amt) then some (Int.tdiv (roundAdj v amt) amt) else none
  else some v

/-- `DecimalToDecimal::{bind, cast}`: the scale factor `10^|diff|` must fit the target primitive
(`checked_pow`, bind-time error), the value is converted to the target primitive, scaled, and
validated against the target precision (`validate_precision`, added by the F5 fix). -/
def rescale (src dst : DecTy) (v : Int) : Option Int :=
  if !dst.storage.inRange ((10 ^ (src.scale - dst.scale).natAbs : Nat) : Int) then none
  else if !dst.storage.inRange v then none
  else match rescaleCore dst.storage (src.scale - dst.scale) v with
    | some r => if validPrec r dst.prec then some r else none
    | none => none

/-- Inversion lemma for `rescale`. -/
theorem rescale_some {src dst : DecTy} {v r : Int} (h : rescale src dst v = some r) :
    rescaleCore dst.storage (src.scale - dst.scale) v = some r ∧ validPrec r dst.prec = true := by
  unfold rescale at h
  repeat' split at h
  all_goals first | (cases h; exact ⟨‹_›, ‹_›⟩) | cases h

def metaOf (bits : Nat) : NumTy → Option (Nat × Int)
  | .dec d => if d.bits = bits then some (d.prec, d.scale) else none
  | .int t => some (decMetaOfInt t, 0)

/-- `common_add_sub_decimal_type_info`. -/
def addSubType (bits : Nat) (l r : NumTy) : Option DecTy :=
  match metaOf bits l, metaOf bits r with
  | some (lp, ls), some (rp, rs) =>
    let maxScale := max ls rs
    let lInt : Int := lp - ls
    let rInt : Int := rp - rs
    let newPrec := (max lInt rInt + maxScale + 1).toNat
    some ⟨bits, min newPrec (maxPrec bits), maxScale⟩
  | _, _ => none

/-- Operand cast inserted by `DecimalAdd::bind` / `DecimalSub::bind`. -/
def castTo (dst : DecTy) : NumTy → Int → Option Int
  | .int _, v => intToDec dst v
  | .dec d, v => if d = dst then some v else rescale d dst v

def nativeOut (ty : NumTy) : Native → Out
  | .val v => .ok ty v
  | .trap k => .trap k

def decAddSub (sub : Bool) (bits : Nat) (l : NumTy) (a : Int) (r : NumTy) (b : Int) : Out :=
  match addSubType bits l r with
  | none => .unsupported
  | some rt =>
    match castTo rt l a, castTo rt r b with
    | some x, some y => nativeOut (.dec rt) (if sub then natSub rt.storage x y else natAdd rt.storage x y)
    | _, _ => .err

/-- `DecimalMul::bind` + `execute`. -/
def decMul (bits : Nat) (l : NumTy) (a : Int) (r : NumTy) (b : Int) : Out :=
  match metaOf bits l, metaOf bits r with
  | some (lp, ls), some (rp, rs) =>
    let newScale := ls + rs
    let newPrec := min (lp + rp) (maxPrec bits)
    if newScale > (maxPrec bits : Int) then .err
    else if newScale > (newPrec : Int) then .err
    else
      let rt : DecTy := ⟨bits, newPrec, newScale⟩
      let ca := match l with | .int _ => intToDec ⟨bits, lp, ls⟩ a | .dec _ => some a
      let cb := match r with | .int _ => intToDec ⟨bits, rp, rs⟩ b | .dec _ => some b
      match ca, cb with
      | some x, some y => nativeOut (.dec rt) (natMul rt.storage x y)
      | _, _ => .err
  | _, _ => .unsupported

/-- The decimal width a signature list resolves to for the operand pair (`D_SIGS`). -/
def decBits : NumTy → NumTy → Option Nat
  | .dec a, .dec b => if a.bits = b.bits then some a.bits else none
  | .dec a, .int t => if t.signed && (t.bits < 64 || a.bits = 128) && t.bits ≤ 64 then some a.bits else none
  | .int t, .dec a => if t.signed && (t.bits < 64 || a.bits = 128) && t.bits ≤ 64 then some a.bits else none
  | _, _ => none

def binop (op : String) (l : NumTy) (a : Int) (r : NumTy) (b : Int) : Out :=
  match l, r with
  | .int t, .int t' =>
    if t ≠ t' then .unsupported else
    match op with
    | "+" => nativeOut l (natAdd t a b)
    | "-" => nativeOut l (natSub t a b)
    | "*" => nativeOut l (natMul t a b)
    | "/" => nativeOut l (natDiv t a b)
    | "%" => nativeOut l (natRem t a b)
    | _ => .unsupported
  | _, _ =>
    match decBits l r with
    | none => .unsupported
    | some bits =>
      match op with
      | "+" => decAddSub false bits l a r b
      | "-" => decAddSub true bits l a r b
      | "*" => decMul bits l a r b
      | _ => .unsupported

/-! ## SUM (`SumStateCheckedAdd`) -/

structure SumSt where
  sum : Int
  valid : Bool
  deriving Repr, DecidableEq, Inhabited

inductive SumRes where
  | st (s : SumSt)
  | overflow
  deriving Repr, DecidableEq, Inhabited

def sumInit : SumSt := ⟨0, false⟩

/-- `update`: `checked_add`, an overflow is an error (after the F4 fix). -/
def sumUpdate (t : IntTy) (s : SumSt) (x : Int) : Option SumSt :=
  if t.inRange (s.sum + x) then some ⟨s.sum + x, true⟩ else none

def sumMerge (t : IntTy) (a b : SumSt) : Option SumSt :=
  if t.inRange (a.sum + b.sum) then some ⟨a.sum + b.sum, a.valid || b.valid⟩ else none

def sumFinalize (s : SumSt) : Option Int := if s.valid then some s.sum else none

def sumFold (t : IntTy) (s : SumSt) : List Int → Option SumSt
  | [] => some s
  | x :: xs => match sumUpdate t s x with
    | some s' => sumFold t s' xs
    | none => none

end GlareModel.Arith
