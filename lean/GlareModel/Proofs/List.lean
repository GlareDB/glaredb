/-! List facts that core lacks and several property files share. -/
namespace GlareModel
universe u v
variable {α : Type u} {β : Type v}

theorem flatMap_congr {l : List α} {f g : α → List β} (h : ∀ a ∈ l, f a = g a) : l.flatMap f = l.flatMap g := by
  rw [List.flatMap_def, List.flatMap_def, List.map_congr_left h]

theorem flatMap_filter (p : α → Bool) (f : α → List β) (l : List α) :
    (l.filter p).flatMap f = l.flatMap fun a => if p a then f a else [] := by
  induction l with
  | nil => rfl
  | cons a as ih => cases h : p a <;> simp [h, ih]

theorem isEmpty_filter (p : α → Bool) (l : List α) : (l.filter p).isEmpty = !l.any p := by
  induction l with
  | nil => rfl
  | cons a as ih => cases h : p a <;> simp [h, ih]

theorem flatMap_append_perm (g h : α → List β) (l : List α) :
    (l.flatMap fun a => g a ++ h a).Perm (l.flatMap g ++ l.flatMap h) := by
  induction l with
  | nil => simp
  | cons a as ih =>
    simp only [List.flatMap_cons, List.append_assoc]
    exact (ih.append_left _).trans (List.perm_append_comm_assoc ..) |>.append_left _

/-- Overwriting position `j`, which held `a`, by `b`: the old list with `b` is the new list with `a`. -/
theorem perm_set {l : List α} {j : Nat} {a : α} (h : l[j]? = some a) (b : α) : (b :: l).Perm (a :: l.set j b) := by
  induction l generalizing j with
  | nil => simp at h
  | cons x xs ih =>
    cases j with
    | zero => cases h; exact .swap ..
    | succ j => exact (List.Perm.swap ..).trans <| ((ih h).cons x).trans (.swap ..)

/-- Two nested loops may be run in either order: the results agree as bags. -/
theorem flatMap_map_comm {γ : Type _} (f : α → β → γ) (l : List α) (r : List β) :
    (l.flatMap fun a => r.map (f a)).Perm (r.flatMap fun b => l.map (f · b)) := by
  induction l with
  | nil => simp
  | cons a as ih =>
    refine .trans ?_ (flatMap_append_perm (fun b => [f a b]) _ r).symm
    rw [← List.map_eq_flatMap]
    exact ih.append_left _

end GlareModel
