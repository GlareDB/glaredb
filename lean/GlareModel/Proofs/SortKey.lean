import GlareModel.Core.SortKey

/-! Byte strings under `lexLt`, and the order each scalar encoder induces on them (C08).

Every encoder lemma is an order embedding `lexLt (enc a) (enc b) = decide (key a < key b)`.
Injectivity is never proved separately: `lexLt` is a strict total order (`lexLt_irrefl`,
`lexLt_connex`), so two encodings are equal exactly when neither is below the other
(`beq_of_lexLt`). -/
namespace GlareModel.SortKey

theorem lexLt_irrefl (a : List Nat) : lexLt a a = false := by
  induction a with
  | nil => rfl
  | cons x xs ih => simp [lexLt, ih]

theorem lexLt_connex {a b : List Nat} (h : lexLt a b = false) (h' : lexLt b a = false) :
    a = b := by
  induction a generalizing b with
  | nil => cases b with
    | nil => rfl
    | cons => cases h
  | cons x xs ih => cases b with
    | nil => cases h'
    | cons y ys =>
      simp only [lexLt, Bool.or_eq_false_iff, Bool.and_eq_false_imp, decide_eq_false_iff_not,
        beq_iff_eq] at h h'
      have : x = y := by omega
      subst this
      rw [ih (h.2 rfl) (h'.2 rfl)]

/-- Byte strings that compare like two integers are equal exactly when the integers are. -/
theorem beq_of_lexLt {x y : List Nat} {i j : Int} (h : lexLt x y = decide (i < j))
    (h' : lexLt y x = decide (j < i)) : (x == y) = (i == j) := by
  rw [Bool.eq_iff_iff, beq_iff_eq, beq_iff_eq]
  constructor
  · intro e
    rw [e, lexLt_irrefl] at h h'
    simp at h h'
    omega
  · intro e
    rw [e] at h h'
    simp at h h'
    exact lexLt_connex h h'

theorem lexLt_append {a1 b1 : List Nat} (a2 b2 : List Nat) (h : a1.length = b1.length) :
    lexLt (a1 ++ a2) (b1 ++ b2) = (lexLt a1 b1 || (a1 == b1 && lexLt a2 b2)) := by
  induction a1 generalizing b1 with
  | nil => cases b1 with
    | nil => simp [lexLt]
    | cons => cases h
  | cons x xs ih => cases b1 with
    | nil => cases h
    | cons y ys =>
      simp [lexLt, ih (Nat.succ.inj h), Bool.and_or_distrib_left, Bool.or_assoc, Bool.and_assoc]

theorem lt_iff_div_mod (a b m : Nat) :
    a < b ↔ a / m < b / m ∨ (a / m = b / m ∧ a % m < b % m) := by
  have ha := Nat.div_add_mod a m
  have hb := Nat.div_add_mod b m
  rcases Nat.lt_trichotomy (a / m) (b / m) with h | h | h
  · have := Nat.lt_of_div_lt_div h; omega
  · rw [h] at ha; omega
  · have := Nat.lt_of_div_lt_div h; omega

@[simp] theorem beBytes_length (n v : Nat) : (beBytes n v).length = n := by
  induction n generalizing v with
  | zero => rfl
  | succ n ih => simp [beBytes, ih]

/-- `beBytes n` keeps the low `n` bytes of its argument, so no bound on the values is needed. -/
theorem beBytes_lt (n a b : Nat) :
    lexLt (beBytes n a) (beBytes n b) = decide (a % 256 ^ n < b % 256 ^ n) := by
  induction n generalizing a b with
  | zero => simp [beBytes, lexLt, Nat.mod_one]
  | succ n ih =>
    rw [Bool.eq_iff_iff, decide_eq_true_iff, lt_iff_div_mod _ _ (256 ^ n), Nat.pow_succ,
      Nat.mod_mul_right_div_self, Nat.mod_mul_right_div_self, Nat.mod_mul_right_mod,
      Nat.mod_mul_right_mod]
    simp [beBytes, lexLt, ih]

theorem xor128 : ∀ b < 256, b ^^^ 128 = (b + 128) % 256 := by decide +kernel

/-- Flipping the sign bit adds half the range modulo the range (offset binary); `beBytes`
drops the carry. -/
theorem encSigned_eq (n a : Nat) : encSigned n a = beBytes n (a + 256 ^ n / 2) := by
  cases n with
  | zero => rfl
  | succ n =>
    rw [Nat.pow_succ, Nat.mul_div_assoc _ (by decide : 2 ∣ 256), encSigned, beBytes, beBytes,
      flipFirst, xor128 _ (Nat.mod_lt _ (by decide)),
      Nat.add_mul_div_left _ _ (Nat.pow_pos (by decide)), Nat.add_mul_mod_self_left,
      Nat.mod_add_mod]

/-- Offset binary against two's complement: the biased pattern is the signed value plus half
the range. -/
theorem toInt_add_half (n a : Nat) (ha : a < 256 ^ (n + 1)) :
    Spec.toInt (n + 1) a + (256 ^ (n + 1) / 2 : Nat) =
      ((a + 256 ^ (n + 1) / 2) % 256 ^ (n + 1) : Nat) := by
  have hh : 256 ^ (n + 1) = 2 * (128 * 256 ^ n) := by rw [Nat.pow_succ]; omega
  unfold Spec.toInt
  rw [hh] at ha ⊢
  generalize 128 * 256 ^ n = h at ha ⊢
  rw [Nat.mul_div_cancel_left _ (by decide : 0 < 2)]
  split
  · rw [Nat.mod_eq_of_lt (by omega)]; omega
  · rw [Nat.mod_eq_sub_mod (by omega), Nat.mod_eq_of_lt (by omega)]; omega

theorem encSigned_lt {n : Nat} (hn : 0 < n) {a b : Nat} (ha : a < 256 ^ n) (hb : b < 256 ^ n) :
    lexLt (encSigned n a) (encSigned n b) = decide (Spec.toInt n a < Spec.toInt n b) := by
  obtain ⟨n, rfl⟩ : ∃ m, n = m + 1 := ⟨n - 1, by omega⟩
  rw [encSigned_eq, encSigned_eq, beBytes_lt, decide_eq_decide, ← Int.ofNat_lt,
    ← toInt_add_half n a ha, ← toInt_add_half n b hb]
  omega

/-- Flipping the low `j` bits below a set bit `j`. -/
theorem xor_low_mask (j r : Nat) (hr : r < 2 ^ j) :
    (2 ^ j + r) ^^^ (2 ^ j - 1) = 2 ^ j + (2 ^ j - 1 - r) := by
  have hr' : 2 ^ j - 1 - r < 2 ^ j := by omega
  apply Nat.eq_of_testBit_eq
  intro i
  rw [Nat.testBit_xor, Nat.testBit_two_pow_sub_one]
  rcases Nat.lt_trichotomy i j with h | rfl | h
  · rw [Nat.testBit_two_pow_add_gt h, Nat.testBit_two_pow_add_gt h, Nat.sub_sub, Nat.add_comm 1 r,
      Nat.testBit_two_pow_sub_succ hr]
    simp [h]
  · rw [Nat.testBit_two_pow_add_eq, Nat.testBit_two_pow_add_eq, Nat.testBit_lt_two_pow hr,
      Nat.testBit_lt_two_pow hr']
    simp
  · have hp : 2 ^ j * 2 ≤ 2 ^ i := by
      rw [← Nat.pow_succ]; exact Nat.pow_le_pow_right (by decide) h
    rw [Nat.testBit_lt_two_pow (by omega : 2 ^ j + r < 2 ^ i),
      Nat.testBit_lt_two_pow (by omega : 2 ^ j + (2 ^ j - 1 - r) < 2 ^ i)]
    simp; omega

/-- With the shift `w - 1` the arithmetic shift smears the sign bit over the word, so the float
transformation keeps a non-negative pattern and flips every bit but the sign of a negative
one. -/
theorem float_xform (j bits : Nat) (h : bits < 2 ^ (j + 1)) :
    bits ^^^ (asr (j + 1) j bits >>> 1) =
      if bits < 2 ^ j then bits else 2 ^ j + (2 ^ j - 1 - (bits - 2 ^ j)) := by
  rw [Nat.pow_succ] at h
  simp only [asr, Nat.add_sub_cancel, Nat.add_sub_cancel_left, Nat.shiftRight_eq_div_pow,
    Nat.pow_succ, Nat.pow_zero]
  split
  next hb => simp [Nat.div_eq_of_lt hb]
  next hb =>
    obtain ⟨r, rfl⟩ := Nat.exists_eq_add_of_le (Nat.le_of_not_lt hb)
    have hr : r < 2 ^ j := by omega
    have hm : (r / 2 ^ j + 1 + (2 ^ j * 2 - 1 * 2)) / (1 * 2) = 2 ^ j - 1 := by
      rw [Nat.div_eq_of_lt hr]; omega
    rw [Nat.add_div_left _ (Nat.pow_pos (by decide)), hm, xor_low_mask j r hr,
      Nat.add_sub_cancel_left]

/-- Read as a signed integer, the transformed pattern is the position in the IEEE total
order. -/
theorem float_xform_toInt {n : Nat} (hn : 0 < n) {x : Nat} (hx : x < 256 ^ n) :
    x ^^^ (asr (8 * n) (8 * n - 1) x >>> 1) < 256 ^ n ∧
      Spec.toInt n (x ^^^ (asr (8 * n) (8 * n - 1) x >>> 1)) = Spec.floatOrd n x := by
  obtain ⟨j, hj⟩ : ∃ j, 8 * n = j + 1 := ⟨8 * n - 1, by omega⟩
  have hp : 256 ^ n = 2 ^ j * 2 := by
    rw [show 256 ^ n = 2 ^ (8 * n) from (Nat.pow_mul 2 8 n).symm, hj, Nat.pow_succ]
  rw [hp] at hx
  rw [hj, Nat.add_sub_cancel, float_xform j x (by omega), Spec.toInt, Spec.floatOrd, hp,
    Nat.mul_div_cancel _ (by decide)]
  generalize 2 ^ j = P at hx ⊢
  by_cases hb : x < P
  · simp only [if_pos hb]; exact ⟨hx, trivial⟩
  · rw [if_neg hb, if_neg hb, if_neg (by omega)]; omega

/-- Order embedding of the float encoding with the shift `8n - 1`: keys compare like the IEEE
total order. -/
theorem encFloat_lt {n : Nat} (hn : 0 < n) {a b : Nat} (ha : a < 256 ^ n) (hb : b < 256 ^ n) :
    lexLt (encFloat n (8 * n - 1) a) (encFloat n (8 * n - 1) b) =
      decide (Spec.floatOrd n a < Spec.floatOrd n b) := by
  have ⟨la, ea⟩ := float_xform_toInt hn ha
  have ⟨lb, eb⟩ := float_xform_toInt hn hb
  rw [encFloat, encFloat, encSigned_lt hn la lb, ea, eb]

end GlareModel.SortKey
