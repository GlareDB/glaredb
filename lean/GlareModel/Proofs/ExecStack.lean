import GlareModel.Core.ExecStack
/-! # Execution stack: the shape invariant and its preservation by `pop_next`

Helper lemmas for `Props/C04.lean` (the property theorems are stated there).

The stack (top first) is always `finUps lo hi ++ execs ++ [bottom]`. The bottom instruction fixes a
frontier `u`, the value `first_unfinalized` reads off it: every operator in `[1, u)` has been
finalized, has answered `Exhausted`, or is one of `[lo, hi)` whose upstream finalize is still queued
on top, and no operator from `u` on has been finalized. -/
namespace GlareModel.Proofs.ExecStack
open GlareModel GlareModel.ExecStack

/-- Operator `j` is done: it has been finalized (a finalize call answered `Finalized` or
`NeedsDrain`) or it answered `Exhausted`. -/
def Done (c : List Call) (j : Nat) : Prop := j ∈ finalizedOps c ∨ j ∈ exhaustedOps c

@[simp] theorem fin_exec (k r) (c : List Call) : finalizedOps (Call.exec k r :: c) = finalizedOps c := rfl
@[simp] theorem fin_fin_finalized (j) (c : List Call) : finalizedOps (Call.fin j .finalized :: c) = j :: finalizedOps c := rfl
@[simp] theorem fin_fin_drain (j) (c : List Call) : finalizedOps (Call.fin j .needsDrain :: c) = j :: finalizedOps c := rfl
@[simp] theorem fin_fin_pending (j) (c : List Call) : finalizedOps (Call.fin j .pending :: c) = finalizedOps c := rfl
@[simp] theorem exh_fin (j r) (c : List Call) : exhaustedOps (Call.fin j r :: c) = exhaustedOps c := rfl
@[simp] theorem exh_exec_exh (k) (c : List Call) : exhaustedOps (Call.exec k .exhausted :: c) = k :: exhaustedOps c := rfl
theorem exh_exec_other (k r) (c : List Call) (h : r ≠ .exhausted) : exhaustedOps (Call.exec k r :: c) = exhaustedOps c := by
  cases r with
  | exhausted => exact absurd rfl h
  | _ => rfl

variable {n u lo hi k b : Nat} {st : Bool} {c : List Call} {s rest : List Instr}

theorem Done.cons {j : Nat} (x : Call) (h : Done c j) : Done (x :: c) j :=
  h.imp (((List.sublist_cons_self x c).filterMap _).subset ·) (((List.sublist_cons_self x c).filterMap _).subset ·)

theorem finUps_of_le (h : hi ≤ lo) : finUps lo hi = [] := by
  simp [finUps, Nat.sub_eq_zero_of_le h]

theorem finUps_of_lt (h : lo < hi) : finUps lo hi = .finUp lo :: finUps (lo + 1) hi := by
  have : hi - lo = hi - (lo + 1) + 1 := by omega
  simp [finUps, this, List.range_succ_eq_map, Nat.add_assoc, Nat.add_comm 1]

theorem firstUnf_nil (k : Nat) : firstUnfinalized [] k = k + 1 := rfl

theorem firstUnf_exec (ab : List Instr) (a : Nat) (st : Bool) (k : Nat) :
    firstUnfinalized (ab ++ [Instr.exec a st]) k = a + 1 := by
  simp [firstUnfinalized]

theorem firstUnf_fin (ab : List Instr) (j k : Nat) : firstUnfinalized (ab ++ [Instr.fin j]) k = j := by
  simp [firstUnfinalized]

/-- The stack below the queued upstream finalizes, as the pushes build it from the bottom: the bottom
is the operator acting as the start of the pipeline (the source, or a draining operator) or the next
operator to finalize, above it are plain executes. `u` is the frontier the bottom stands for. -/
inductive Execs (n u : Nat) : List Instr → Prop
  | start (a : Nat) : a < n → u = a + 1 → Execs n u [.exec a true]
  | fin : 1 ≤ u → u < n → Execs n u [.fin u]
  | exec {i : Nat} {s : List Instr} : u ≤ i → i < n → Execs n u s → Execs n u (.exec i false :: s)

theorem Execs.frontier (h : Execs n u s) (k : Nat) : firstUnfinalized s k = u := by
  induction h with
  | start a _ hu => exact hu ▸ firstUnf_exec [] a true k
  | fin => exact firstUnf_fin [] u k
  | exec _ _ hs ih => rw [← ih]; cases hs <;> simp [firstUnfinalized]

/-- What `pop_next` uses of the stack when it has popped an execute: the frontier it reads is `u`
also when the popped instruction was the bottom, and `s1` of the model is again a stack. -/
theorem Execs.top (h : Execs n u (.exec k st :: rest)) :
    k < n ∧ u ≤ k + 1 ∧ firstUnfinalized rest k = u ∧ Execs n u (if st then .exec k st :: rest else rest) := by
  cases h with
  | start a ha hu => exact ⟨ha, by omega, hu ▸ firstUnf_nil k, .start k ha hu⟩
  | exec h1 h2 hs => exact ⟨h2, by omega, hs.frontier k, hs⟩

/-- What the calls `c` have told the operators, for frontier `u` and queued finalizes `[lo, hi)`. -/
structure Told (c : List Call) (u lo hi : Nat) : Prop where
  nodup : (finalizedOps c).Nodup
  finalized : ∀ x ∈ finalizedOps c, x < u ∧ (x < lo ∨ hi ≤ x)
  done : ∀ x, 1 ≤ x → x < u → Done c x ∨ (lo ≤ x ∧ x < hi)
  hi_le : hi ≤ u

theorem Told.keep (h : Told c u lo hi) (x : Call) (hx : finalizedOps (x :: c) = finalizedOps c) :
    Told (x :: c) u lo hi :=
  ⟨hx ▸ h.nodup, hx ▸ h.finalized, fun y h1 h2 => (h.done y h1 h2).imp_left (.cons x), h.hi_le⟩

theorem Told.finalize (h : Told c u lo hi) (hlo : lo < hi) (x : Call)
    (hx : finalizedOps (x :: c) = lo :: finalizedOps c) : Told (x :: c) u (lo + 1) hi where
  nodup := hx ▸ List.nodup_cons.2 ⟨fun hm => by have := h.finalized lo hm; omega, h.nodup⟩
  finalized := hx ▸ List.forall_mem_cons.2
    ⟨by have := h.hi_le; omega, fun y hy => by have := h.finalized y hy; omega⟩
  done := fun y h1 h2 => by
    rcases h.done y h1 h2 with hd | hq
    · exact .inl (hd.cons x)
    · by_cases hy : y = lo
      · exact .inl (.inl (by rw [hx, hy]; exact List.mem_cons_self))
      · exact .inr (by omega)
  hi_le := h.hi_le

/-- With nothing queued the frontier may be put further up: the operators skipped are queued. -/
theorem Told.queue {v : Nat} (h : Told c u lo hi) (hq : hi ≤ lo) (hv : u ≤ v) : Told c v u v where
  nodup := h.nodup
  finalized := fun x hx => by have := h.finalized x hx; omega
  done := fun x h1 _ => by
    by_cases hxu : x < u
    · exact .inl ((h.done x h1 hxu).resolve_right (by omega))
    · exact .inr (by omega)
  hi_le := Nat.le_refl v

theorem Told.exhausted (h : Told c u lo (hi + 1)) : Told (.exec hi .exhausted :: c) u lo hi :=
  have h' := h.keep (.exec hi .exhausted) (fin_exec ..)
  { nodup := h'.nodup
    finalized := fun x hx => by have := h'.finalized x hx; omega
    done := fun x h1 h2 => by
      rcases h'.done x h1 h2 with hd | hq
      · exact .inl hd
      · by_cases hx : x = hi
        · exact .inl (.inr (by simp [hx]))
        · exact .inr (by omega)
    hi_le := by have := h.hi_le; omega }

/-- The invariant, by control flow (`.continue` and `.pending` ask the same). -/
def Good (n : Nat) (c : List Call) (stack : List Instr) : Flow → Prop
  | .error => True
  | .finished => (∀ j, 1 ≤ j → j < n → Done c j) ∧ (finalizedOps c).Nodup
  | _ => ∃ u lo hi s, stack = finUps lo hi ++ s ∧ Execs n u s ∧ Told c u lo hi

theorem Good.of_stack (hs : Execs n u s) (ht : Told c u lo hi) : Good n c (finUps lo hi ++ s) .continue :=
  ⟨u, lo, hi, s, rfl, hs, ht⟩

theorem Good.of_execs (hs : Execs n u s) (ht : Told c u lo hi) (hq : hi ≤ lo) : Good n c s .continue := by
  have := Good.of_stack hs ht
  rwa [finUps_of_le hq] at this

theorem Good.nodup {stack : List Instr} {fl : Flow} (h : Good n c stack fl) (hf : fl ≠ .error) :
    (finalizedOps c).Nodup := by
  cases fl with
  | error => contradiction
  | finished => exact h.2
  | _ => obtain ⟨_, _, _, _, _, _, ht⟩ := h; exact ht.nodup

/-- What a step that answers `r` after calls `c` must establish, if the operators kept the protocol. -/
def Post (n : Nat) (c : List Call) (r : List Instr × Call × Flow × Bool) : Prop :=
  r.2.2.2 = false → Good n (r.2.1 :: c) r.1 r.2.2.1

theorem exec_step (hs : Execs n u (.exec k st :: rest)) (ht : Told c u lo hi) (hq : hi ≤ lo) :
    Post n c (stepInstr true n rest (.exec k st) b) := by
  obtain ⟨hk, huk, hfu, hs1⟩ := hs.top
  have keep := fun p => ht.keep (.exec k p) (fin_exec ..)
  cases hp : peOf b <;> simp only [Post, stepInstr, hp, if_true, true_implies, bne_iff_ne, beq_iff_eq]
  case ready =>
    split
    · exact .of_execs (.exec huk (by omega) hs1) (keep _) hq
    · exact .of_execs hs1 (keep _) hq
  case pending => exact .of_execs hs (keep _) hq
  case needsMore =>
    rintro rfl
    exact .of_execs hs1 (keep _) hq
  case hasMore =>
    split
    · exact fun _ => .of_execs (.exec huk (by omega) hs) (keep _) hq
    · exact fun _ => trivial
  case exhausted =>
    split
    · exact fun _ => trivial
    · -- the stack is dropped: the operators from the frontier up to `k` are queued, `k` itself is done
      rw [hfu]
      exact fun _ => .of_stack (.exec (Nat.le_refl _) (by omega) (.fin (by omega) (by omega)))
        (ht.queue hq huk).exhausted

theorem finUp_step (hs : Execs n u s) (ht : Told c u lo hi) (hlo : lo < hi) :
    Post n c (stepInstr true n (finUps (lo + 1) hi ++ s) (.finUp lo) b) := by
  cases hp : pfOf b <;> simp only [Post, stepInstr, hp, true_implies]
  case finalized => exact .of_stack hs (ht.finalize hlo _ (fin_fin_finalized ..))
  case needsDrain => exact .of_stack hs (ht.finalize hlo _ (fin_fin_drain ..))
  case pending =>
    rw [← List.cons_append, ← finUps_of_lt hlo]
    exact .of_stack hs (ht.keep _ (fin_fin_pending ..))

theorem fin_step (hu1 : 1 ≤ u) (hun : u < n) (ht : Told c u lo hi) (hq : hi ≤ lo) :
    Post n c (stepInstr true n [] (.fin u) b) := by
  have adv := (ht.queue hq (Nat.le_succ u)).finalize (Nat.lt_succ_self u)
  cases hp : pfOf b <;> simp only [Post, stepInstr, hp, beq_iff_eq]
  case finalized =>
    have ht' := adv _ (fin_fin_finalized ..)
    split
    · exact fun _ => ⟨fun j h1 h2 => (ht'.done j h1 (by omega)).resolve_right (by omega), ht'.nodup⟩
    · exact fun _ => .of_execs (.fin (by omega) (by omega)) ht' (Nat.le_refl _)
  case needsDrain =>
    split
    · exact fun _ => trivial
    · exact fun _ => .of_execs (.start u hun rfl) (adv _ (fin_fin_drain ..)) (Nat.le_refl _)
  case pending => exact fun _ => .of_execs (.fin hu1 hun) (ht.keep _ (fin_fin_pending ..)) hq

/-- Every `pop_next` of the repaired stack keeps the invariant (or ends the run). -/
theorem stepInstr_post {top : Instr} (hg : Good n c (top :: rest) .continue) :
    Post n c (stepInstr true n rest top b) := by
  obtain ⟨u, lo, hi, s, hst, hs, ht⟩ := hg
  by_cases hlo : lo < hi
  · rw [finUps_of_lt hlo] at hst
    cases hst
    exact finUp_step hs ht hlo
  · have hq : hi ≤ lo := by omega
    rw [finUps_of_le hq] at hst
    cases hst
    cases top with
    | exec k st => exact exec_step hs ht hq
    | fin j => cases hs with | fin hu1 hun => exact fin_step hu1 hun ht hq
    | finUp j => nomatch hs

/-- The invariant of a whole state: nothing is claimed once the operators broke the protocol. -/
def Inv (n : Nat) (s : St) : Prop := s.broke = false → Good n s.calls s.stack s.flow

theorem step_inv {s : St} (b : Nat) (h : Inv n s) : Inv n (step true n s b) := by
  unfold step
  split
  · exact h
  · exact h
  · next hfin herr =>
    have running : s.broke = false → Good n s.calls s.stack .continue := fun hb => by
      have := h hb
      cases hfl : s.flow with
      | finished => exact (hfin hfl).elim
      | error => exact (herr hfl).elim
      | _ => rw [hfl] at this; exact this
    split
    · next hst =>
      intro hb
      obtain ⟨u, lo, hi, s', hs', hs, _⟩ := hst ▸ running hb
      cases hs <;> simp at hs'
    · next top rest hst =>
      intro hb
      obtain ⟨hb1, hb2⟩ := Bool.or_eq_false_iff.1 hb
      exact stepInstr_post (hst ▸ running hb1) hb2

theorem run_inv (n : Nat) (hn : 0 < n) (script : List Nat) : Inv n (run true n script) :=
  List.foldlRecOn (motive := Inv n) script _
    (fun _ => .of_execs (.start 0 hn rfl) ⟨List.nodup_nil, nofun, fun x h1 h2 => by omega, Nat.zero_le 1⟩ (Nat.le_refl 0))
    fun _ hs b _ => step_inv b hs

end GlareModel.Proofs.ExecStack
